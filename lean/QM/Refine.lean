/-! The conversion loop of `process` (main.rs) in the abstract.
    `U`: units, `N`: their names, `V`: what the name table holds for a name, `W`: what a unit leaves with the unit it links to (a
    container, its service name with its pod), `O`: results of a conversion.  Every unit has a row in the table from the start
    (`prefill`); on its turn a unit is converted against the table as it stands and against what was left with it so far (`out`),
    may overwrite its own row (`publish`) and may leave something with one other unit (`link`).  `run` is that loop; `decl` converts
    every unit against the final table `fin` and everything that is ever left with it. -/
namespace Refine

variable {U N V W O : Type} [DecidableEq N]

structure Sys (U N V W O : Type) where
  name : U → N
  prio : U → Nat
  prefill : U → V
  publish : U → Option V
  reads : U → List N
  out : U → (N → Option V) → List W → O
  link : U → (N → Option V) → Option (N × W)

structure St (N V W : Type) where
  tbl : N → Option V
  acc : N → List W

def upd {β : Type} (f : N → β) (n : N) (b : β) : N → β := fun m => if m = n then b else f m

variable (S : Sys U N V W O)

def findUnit (units : List U) (n : N) : Option U := units.find? (fun u => S.name u = n)

def init (units : List U) : St N V W :=
  { tbl := fun n => (findUnit S units n).map S.prefill, acc := fun _ => [] }

def fin (units : List U) (n : N) : Option V :=
  (findUnit S units n).map (fun u => (S.publish u).getD (S.prefill u))

def step (s : St N V W) (u : U) : St N V W × O :=
  let o := S.out u s.tbl (s.acc (S.name u))
  let tbl' := match S.publish u with
    | some v => upd s.tbl (S.name u) (some v)
    | none => s.tbl
  let acc' := match S.link u s.tbl with
    | some (n, w) => upd s.acc n (s.acc n ++ [w])
    | none => s.acc
  ({ tbl := tbl', acc := acc' }, o)

def run : St N V W → List U → List (U × O)
  | _, [] => []
  | s, u :: us => let (s', o) := step S s u; (u, o) :: run s' us

def linkTo (units : List U) (n : N) (c : U) : Option W :=
  match S.link c (fin S units) with
  | some (m, w) => if m = n then some w else none
  | none => none

def decl (units order : List U) (u : U) : O :=
  S.out u (fin S units) (order.filterMap (linkTo S units (S.name u)))

structure Local (units : List U) : Prop where
  out_local : ∀ u t₁ t₂ a, (∀ n ∈ S.reads u, t₁ n = t₂ n) → S.out u t₁ a = S.out u t₂ a
  link_local : ∀ u t₁ t₂, (∀ n ∈ S.reads u, t₁ n = t₂ n) → S.link u t₁ = S.link u t₂
  reads_lower : ∀ u ∈ units, ∀ n ∈ S.reads u, ∀ u' ∈ units, S.name u' = n → S.prio u' < S.prio u ∨ S.publish u' = none
  link_higher : ∀ c ∈ units, ∀ t n w, S.link c t = some (n, w) → ∀ u' ∈ units, S.name u' = n → S.prio c < S.prio u'

end Refine
