import QM.Fs
import QM.InsertionSort
/-! Keeping the first of every key, as a fold (`keepFirst`, `mem_foldl_first`): discovery keeps the first loadable file of every name,
    drop-in collection the first `*.conf` of every name; the surviving drop-ins are merged in name order. -/
namespace Cv

def keepFirst {α κ} [BEq κ] (key : α → κ) (acc : List α) (y : α) : List α :=
  if acc.any (key · == key y) then acc else acc ++ [y]

theorem mem_foldl_first {α κ} [BEq κ] [LawfulBEq κ] (key : α → κ) (l : List α) (acc : List α) (x : α) :
    x ∈ l.foldl (keepFirst key) acc ↔
      x ∈ acc ∨ (acc.any (key · == key x) = false ∧ l.find? (key · == key x) = some x) := by
  induction l generalizing acc with
  | nil => simp
  | cons y l ih =>
    rw [List.foldl_cons, ih, List.find?_cons, keepFirst]
    -- `y` has the key of `x`: it is appended exactly when `acc` has none of that key, and then `y` is what `find?` returns and
    -- bars the rest of `l`.  Another key: with or without `y`, `acc` has the same elements of `x`'s key, and `find?` passes over `y`
    by_cases hk : key y = key x
    · simp only [hk, beq_self_eq_true]
      cases hy : acc.any (key · == key x)
      · have : y = x ↔ x = y := eq_comm
        simp [hy, hk, this]
      · simp [hy]
    · have hk' : (key y == key x) = false := by simpa using hk
      cases acc.any (key · == key y)
      · have : x ≠ y := fun e => hk (e ▸ rfl)
        simp [hk', this]
      · simp [hk']

theorem foldl_first_nodup {α κ} [BEq κ] [LawfulBEq κ] (key : α → κ) (l : List α) :
    ((l.foldl (keepFirst key) []).map key).Nodup :=
  List.foldlRecOn l _ (motive := fun (acc : List α) => (acc.map key).Nodup) (by simp) fun acc h y _ => by
    unfold keepFirst
    split
    · exact h
    · rename_i hy
      rw [List.map_append, List.nodup_append]
      refine ⟨h, by simp, fun a ha b hb e => hy ?_⟩
      obtain ⟨z, hz, rfl⟩ := List.mem_map.mp ha
      rw [List.mem_singleton.mp hb] at e
      exact List.any_eq_true.mpr ⟨z, hz, by simpa using e⟩

def loadedUnits (l : List Loaded) : List QUnit := l.filterMap fun | .unit q => some q | _ => none

def okUnit (pc : Str × Str) : Option QUnit :=
  match Parse.parse parseEnv pc.2 with
  | .ok u => some { path := pc.1, unit := u }
  | .error _ => none

theorem okUnit_of_ok {pc : Str × Str} {u : MM.SUnit} (h : Parse.parse parseEnv pc.2 = .ok u) :
    okUnit pc = some { path := pc.1, unit := u } := by
  rw [okUnit, h]

theorem okUnit_eq_some {pc : Str × Str} {q : QUnit} (h : okUnit pc = some q) :
    q.path = pc.1 ∧ Parse.parse parseEnv pc.2 = .ok q.unit := by
  unfold okUnit at h
  split at h
  · cases h; exact ⟨rfl, ‹_›⟩
  · cases h

theorem okUnit_name (pc : Str × Str) (q : QUnit) (h : okUnit pc = some q) : q.name = fileName pc.1 := by
  rw [QUnit.name, (okUnit_eq_some h).1]

theorem loadStep_eq (acc : List Str × List Loaded) (pc : Str × Str) :
    loadStep acc pc = if acc.1.contains (fileName pc.1) then acc else
      match okUnit pc with
      | some q => (acc.1 ++ [q.name], acc.2 ++ [Loaded.unit q])
      | none => (acc.1, acc.2 ++ [Loaded.loadErr pc.1]) := by
  unfold loadStep okUnit
  cases Parse.parse parseEnv pc.2 <;> rfl

theorem loadedUnits_append_unit (l : List Loaded) (q : QUnit) : loadedUnits (l ++ [Loaded.unit q]) = loadedUnits l ++ [q] := by
  simp [loadedUnits, List.filterMap_append]

theorem loadedUnits_append_err (l : List Loaded) (p : Str) : loadedUnits (l ++ [Loaded.loadErr p]) = loadedUnits l := by
  simp [loadedUnits, List.filterMap_append]

theorem loadedUnits_fold (cands : List (Str × Str)) (acc : List Str × List Loaded) (h : acc.1 = (loadedUnits acc.2).map QUnit.name) :
    loadedUnits (cands.foldl loadStep acc).2
      = (cands.filterMap okUnit).foldl (keepFirst QUnit.name) (loadedUnits acc.2) := by
  induction cands generalizing acc with
  | nil => rfl
  | cons pc cands ih =>
    rw [List.foldl_cons, List.filterMap_cons, loadStep_eq]
    cases ho : okUnit pc with
    | none =>
      simp only
      split
      · exact ih acc h
      · rw [ih _ (by rwa [loadedUnits_append_err]), loadedUnits_append_err]
    | some q =>
      -- the names seen are the names of the units loaded: both folds skip `q`, or both take it
      have hany : (loadedUnits acc.2).any (·.name == q.name) = acc.1.contains (fileName pc.1) := by
        rw [h, okUnit_name pc q ho, Bool.eq_iff_iff]; simp [List.any_eq_true]
      simp only [List.foldl_cons, keepFirst, hany]
      split
      · exact ih acc h
      · rw [ih _ (by rw [loadedUnits_append_unit, List.map_append, ← h]; rfl), loadedUnits_append_unit]

theorem loadedUnits_loadFrom (cands : List (Str × Str)) :
    loadedUnits (loadFrom cands)
      = (cands.filterMap okUnit).foldl (keepFirst QUnit.name) [] :=
  loadedUnits_fold cands ([], []) rfl

/-- `q` was loaded from a candidate file, parsed from its content, and every *earlier* candidate of the same file name
    failed to load; so it is for every loaded unit (`C13_first_wins`, Props/C13.lean) -/
def FirstWins (cands : List (Str × Str)) (q : QUnit) : Prop :=
  ∃ pre c post, cands = pre ++ (q.path, c) :: post ∧ Parse.parse parseEnv c = .ok q.unit ∧
    ∀ pc ∈ pre, fileName pc.1 = q.name → ∀ u, Parse.parse parseEnv pc.2 ≠ .ok u

open MM

def confsAt (t : Tree) (d : Str) : List (Str × Str) := (confsIn t d).map fun n => (n, d ++ '/' :: n)

theorem collectConfs_eq (t : Tree) (dd : List Str) :
    collectConfs t dd = (dd.flatMap (confsAt t)).foldl (keepFirst Prod.fst) [] := by
  rw [List.foldl_flatMap]
  simp only [confsAt, List.foldl_map]
  rfl

theorem mem_collectConfs (t : Tree) (dd : List Str) (c : Str × Str) :
    c ∈ collectConfs t dd ↔ (dd.flatMap (confsAt t)).find? (·.1 == c.1) = some c := by
  rw [collectConfs_eq, mem_foldl_first Prod.fst]; simp

def FromFirst (t : Tree) (dd : List Str) (c : Str × Str) : Prop :=
  ∃ pre d post, dd = pre ++ d :: post ∧ c.2 = d ++ '/' :: c.1 ∧ c.1 ∈ confsIn t d ∧ ∀ d' ∈ pre, c.1 ∉ confsIn t d'

theorem collect_from_first (t : Tree) (dd : List Str) : ∀ c ∈ collectConfs t dd, FromFirst t dd c := by
  intro c hc
  rw [mem_collectConfs, List.find?_flatMap, List.findSome?_eq_some_iff] at hc
  obtain ⟨pre, d, post, rfl, hd, hpre⟩ := hc
  obtain ⟨n, hn, rfl⟩ := List.mem_map.mp (List.mem_of_find?_eq_some hd)
  exact ⟨pre, d, post, rfl, rfl, hn, fun d' hd' hin =>
    List.find?_eq_none.mp (hpre d' hd') (n, d' ++ '/' :: n) (List.mem_map.mpr ⟨n, hin, rfl⟩) (beq_self_eq_true n)⟩

theorem collect_complete (t : Tree) (dd : List Str) (d n : Str) (hd : d ∈ dd) (hn : n ∈ confsIn t d) :
    n ∈ (collectConfs t dd).map Prod.fst := by
  obtain ⟨c, hc⟩ := Option.isSome_iff_exists.mp (List.find?_isSome.mpr
    ⟨(n, d ++ '/' :: n), List.mem_flatMap.mpr ⟨d, hd, List.mem_map.mpr ⟨n, hn, rfl⟩⟩, beq_self_eq_true n⟩ :
    ((dd.flatMap (confsAt t)).find? (·.1 == n)).isSome)
  have hk : c.1 = n := by simpa using List.find?_some hc
  exact List.mem_map.mpr ⟨c, (mem_collectConfs t dd c).mpr (hk ▸ hc), hk⟩

theorem collect_names_nodup (t : Tree) (dd : List Str) : ((collectConfs t dd).map Prod.fst).Nodup := by
  rw [collectConfs_eq]; exact foldl_first_nodup Prod.fst _

theorem addConf_mono (d : Str) (acc : List (Str × Str)) (name : Str) (x : Str × Str) (h : x ∈ acc) : x ∈ addConf d acc name := by
  unfold addConf; split
  · exact h
  · exact List.mem_append_left _ h

theorem names_mono_addConf (d : Str) (acc : List (Str × Str)) (name n : Str) (h : n ∈ acc.map Prod.fst) :
    n ∈ (addConf d acc name).map Prod.fst := by
  obtain ⟨x, hx, e⟩ := List.mem_map.mp h
  exact List.mem_map.mpr ⟨x, addConf_mono d acc name x hx, e⟩

theorem sortConfs_perm (confs : List (Str × Str)) : (sortConfs confs).Perm confs :=
  InsertionSort.sort_perm (InsertionSort.ins_perm (ins := insertSorted) (fun _ => rfl) fun _ _ _ => rfl) confs

def SortedByName (l : List (Str × Str)) : Prop := l.Pairwise (fun a b => leStr a.1 b.1 = true)

theorem leStr_total (a b : Str) (h : ¬leStr a b = true) : leStr b a = true := by
  unfold leStr at h ⊢
  exact decide_eq_true ((String.le_total _ _).resolve_left (of_decide_eq_false (by simpa using h)))

theorem leStr_trans (a b c : Str) (h1 : leStr a b = true) (h2 : leStr b c = true) : leStr a c = true := by
  unfold leStr at *
  exact decide_eq_true (String.le_trans (of_decide_eq_true h1) (of_decide_eq_true h2))

theorem sortConfs_sorted (confs : List (Str × Str)) : SortedByName (sortConfs confs) :=
  InsertionSort.sort_sorted (InsertionSort.ins_sorted (ins := insertSorted) (le := fun a b => leStr a.1 b.1 = true) (fun _ => rfl) (fun _ _ _ => rfl)
    (fun a b c => leStr_trans a.1 b.1 c.1) (fun _ _ h => h) fun a b => leStr_total a.1 b.1) confs

end Cv
