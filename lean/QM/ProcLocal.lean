import QM.ProcLemmas
import QM.EscLemmas
import QM.NameLemmas
import QM.InsertionSort
import QM.ConvArgs
/-! The conversion loop of `process` is a local system (`Refine.Local`, QM/Refine.lean), by the priorities and by what each unit type
    publishes and reads; the priority sort. -/
namespace Cv
open MM

theorem dot_image : s ".image" = '.' :: s "image" ∧ '.' ∉ s "image" := by simp [s]
theorem dot_build : s ".build" = '.' :: s "build" ∧ '.' ∉ s "build" := by simp [s]
theorem dot_pod : s ".pod" = '.' :: s "pod" ∧ '.' ∉ s "pod" := by simp [s]

def isPublisher (ty : Str) : Bool := ty == s "image" || ty == s "volume" || ty == s "network"

theorem publishOf_none (b : Bool) (q : QUnit) (h : isPublisher q.ty = false) : publishOf b q = none := by
  simp only [isPublisher, Bool.or_eq_false_iff] at h
  obtain ⟨⟨h1, h2⟩, h3⟩ := h
  unfold publishOf
  simp [h1, h2, h3]

theorem publishOf_image (b : Bool) (q : QUnit) (hty : q.ty = s "image") :
    publishOf b q = match fromImage (envOf b (fun _ => none)) q.path q.unit with
      | .ok (_, r) => some { serviceName := serviceNameOf q.path q.unit, resourceName := r }
      | .error _ => none := by
  simp [publishOf, hty]; rfl

theorem publishOf_volume (b : Bool) (q : QUnit) (hty : q.ty = s "volume") :
    publishOf b q = (volumePublished q).map fun r => { serviceName := serviceNameOf q.path q.unit, resourceName := r } := by
  simp [publishOf, hty, s_inj]

theorem publishOf_network (b : Bool) (q : QUnit) (hty : q.ty = s "network") :
    publishOf b q = match fromNetwork (envOf b (fun _ => none)) q.path q.unit with
      | .ok (_, r) => some { serviceName := serviceNameOf q.path q.unit, resourceName := r }
      | .error _ => none := by
  simp [publishOf, hty, s_inj]; rfl

theorem prefill_build (q : QUnit) (hty : q.ty = s "build") :
    prefill q = { serviceName := serviceNameOf q.path q.unit, resourceName := (builtImageName q.unit).getD [] } := by
  simp [prefill, hty]

theorem prefill_container (q : QUnit) (hty : q.ty = s "container") :
    prefill q = { serviceName := serviceNameOf q.path q.unit,
                  resourceName := containerResourceName q.name q.unit (serviceNameOf q.path q.unit) } := by
  simp [prefill, hty, s_inj]

theorem publishOf_serviceName (b : Bool) (q : QUnit) (i : Info) (h : publishOf b q = some i) :
    i.serviceName = serviceNameOf q.path q.unit := by
  by_cases hp : isPublisher q.ty = true
  · simp only [isPublisher, Bool.or_eq_true, beq_iff_eq] at hp
    rcases hp with (hty | hty) | hty
    · rw [publishOf_image b q hty] at h; split at h <;> simp at h; rw [← h]
    · rw [publishOf_volume b q hty] at h; obtain ⟨r, _, rfl⟩ := Option.map_eq_some_iff.mp h; rfl
    · rw [publishOf_network b q hty] at h; split at h <;> simp at h; rw [← h]
  · rw [publishOf_none b q (by simpa using hp)] at h; cases h

theorem prio_values :
    prio (s "image") = 1 ∧ prio (s "volume") = 2 ∧ prio (s "network") = 2 ∧ prio (s "build") = 3 ∧
    prio (s "container") = 4 ∧ prio (s "kube") = 4 ∧ prio (s "pod") = 5 := by decide +kernel

theorem prio_publisher (ty : Str) (h : isPublisher ty = true) : prio ty ≤ 2 := by
  simp only [isPublisher, Bool.or_eq_true, beq_iff_eq] at h
  obtain ⟨hi, hv, hn, -⟩ := prio_values
  rcases h with (rfl | rfl) | rfl <;> simp [hi, hv, hn]

theorem prio_table : ∀ p ∈ Gen.sortingPriority, isPublisher p.1 = true ∨ 2 < p.2 := by decide +kernel

theorem prio_nonpublisher (ty : Str) (h : isPublisher ty = false) : 2 < prio ty := by
  unfold prio
  cases hl : Gen.sortingPriority.lookup ty with
  | none => simp
  | some v => simpa [h] using prio_table _ (P.lookup_mem _ _ _ hl)

/-- a unit whose file name ends in `.e` has type `e` — unless nothing stands before the dot: then it has none -/
theorem ty_of_endsWith (q : QUnit) (e : Str) (he : '.' ∉ e) (h : endsWith q.name ('.' :: e) = true) (hne : q.ty ≠ []) : q.ty = e := by
  obtain ⟨pre, hp⟩ := (endsWith_iff _ _).mp h
  rw [QUnit.ty, hp, extension_append _ _ he] at hne ⊢
  split
  · rw [if_pos ‹_›] at hne; exact absurd rfl hne
  · rfl

theorem readsOf_publisher (u : QUnit) (hu : isPublisher u.ty = true) (n : Str) (hn : n ∈ readsOf u) :
    u.ty = s "volume" ∧ (endsWith n (s ".build") || endsWith n (s ".image")) = true := by
  unfold readsOf at hn
  by_cases c1 : (u.ty == s "image") = true
  · simp [c1] at hn
  by_cases c2 : (u.ty == s "volume") = true
  · refine ⟨by simpa using c2, ?_⟩
    simp only [c1, c2, Bool.false_eq_true, if_false, if_true] at hn
    cases hi : lookup u.unit (s "Volume") (s "Image") with
    | none => simp [hi] at hn
    | some img =>
      simp only [hi, imageRefs] at hn
      split at hn
      · rwa [List.mem_singleton.mp hn]
      · cases hn
  · have c3 : (u.ty == s "network") = true := by simpa [isPublisher, c1, c2] using hu
    simp [c1, c2, c3] at hn

theorem reads_lower (b : Bool) (u u' : QUnit) (n : Str) (hn : n ∈ readsOf u) (hname : u'.name = n) :
    prio u'.ty < prio u.ty ∨ publishOf b u' = none := by
  by_cases hp : isPublisher u'.ty = true
  · left
    by_cases hu : isPublisher u.ty = true
    · obtain ⟨hty, hc⟩ := readsOf_publisher u hu n hn
      obtain ⟨hi, hv, -, hb, -⟩ := prio_values
      have h2 := prio_publisher _ hp
      have hne : u'.ty ≠ [] := fun e => by rw [e] at h2; exact absurd h2 (by decide)
      -- of the two kinds of unit a .volume reads, a .build has a priority no publisher has: `u'` is an .image
      rw [← hname, Bool.or_eq_true, dot_build.1, dot_image.1] at hc
      rw [hty, hv]
      rcases hc with hc | hc
      · rw [ty_of_endsWith u' _ dot_build.2 hc hne, hb] at h2; exact absurd h2 (by decide)
      · rw [ty_of_endsWith u' _ dot_image.2 hc hne, hi]; decide
    · have h1 := prio_publisher _ hp
      have h2 := prio_nonpublisher _ (by simpa using hu)
      omega
  · right
    exact publishOf_none b u' (by simpa using hp)

/-- the unit files the generator loads have one of the supported extensions (`UnitFiles::new`, src/quadlet/iterators.rs, keeps the
    directory entries whose extension is in `SUPPORTED_EXTENSIONS`; table extracted from constants.rs) -/
def Loadable (units : List QUnit) : Prop := ∀ q ∈ units, q.ty ∈ Gen.SUPPORTED_EXTENSIONS

theorem prio_lt_pod : ∀ ty ∈ Gen.SUPPORTED_EXTENSIONS, ty = s "pod" ∨ prio ty < prio (s "pod") := by decide +kernel

theorem linkOf_eq_some {b : Bool} {c : QUnit} {t : Tab} {l : Str × Str} (h : linkOf b c t = some l) :
    (c.ty == s "image" || c.ty == s "volume" || c.ty == s "network" || c.ty == s "build" || c.ty == s "kube" || c.ty == s "pod") = false
      ∧ ∃ svc, fromContainer (envOf b t) c.path c.unit = some (.ok (svc, some l)) := by
  unfold linkOf at h
  simp only at h
  split at h
  · cases h
  · refine ⟨Bool.eq_false_iff.mpr ‹_›, ?_⟩
    split at h
    · exact ⟨_, by rw [← h]; assumption⟩
    · cases h

theorem link_higher (b : Bool) (units : List QUnit) (hl : Loadable units) (c : QUnit) (hc : c ∈ units) (t : Tab) (n w : Str)
    (h : linkOf b c t = some (n, w)) (u' : QUnit) (hu' : u' ∈ units) (hname : u'.name = n) : prio c.ty < prio u'.ty := by
  obtain ⟨hty, svc, hf⟩ := linkOf_eq_some h
  -- the link goes to a file `<x>.pod`, which among loadable units is a pod
  have hp := fromContainer_link _ _ _ _ _ _ hf
  rw [← hname, dot_pod.1] at hp
  rw [ty_of_endsWith u' _ dot_pod.2 hp fun e => absurd (e ▸ hl u' hu') (by decide)]
  exact (prio_lt_pod _ (hl c hc)).resolve_left fun e => by simp [e] at hty

theorem sys_local (b : Bool) (units : List QUnit) (hl : Loadable units) : Refine.Local (sys b) units := by
  constructor <;> simp only [sys_name, sys_prio, sys_publish, sys_reads, sys_out, sys_link]
  · exact fun u t₁ t₂ a h => convOut_congr b t₁ t₂ a u h
  · exact fun u t₁ t₂ h => linkOf_congr b t₁ t₂ u h
  · exact fun u _ n hn u' _ hname => reads_lower b u u' n hn hname
  · exact fun c hc t n w h u' hu' hname => link_higher b units hl c hc t n w h u' hu' hname


theorem sortByPrio_perm (qs : List QUnit) : (sortByPrio qs).Perm qs :=
  InsertionSort.sort_perm (InsertionSort.ins_perm (ins := insertByPrio) (fun _ => rfl) fun _ _ _ => rfl) qs

def SortedByPrio (l : List QUnit) : Prop := l.Pairwise (fun a b => prio a.ty ≤ prio b.ty)

theorem sortByPrio_sorted (qs : List QUnit) : SortedByPrio (sortByPrio qs) :=
  InsertionSort.sort_sorted (InsertionSort.ins_sorted (ins := insertByPrio) (le := fun a b => prio a.ty ≤ prio b.ty)
    (fun _ => rfl) (fun _ _ _ => rfl) (fun _ _ _ => Nat.le_trans) (fun _ _ => Nat.le_of_lt) fun _ _ => Nat.le_of_not_lt) qs

end Cv
