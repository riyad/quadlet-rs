/-! The section map of a `SystemdUnit` (unit.rs: `ListOrderedMultimap<SectionKey, Entries>`, filled only through `entry(…)`, so with one
    value per section name) as an association list in order of first insertion; `addEntry`, `setEntry`, `prependEntry`, `renameSection`,
    `mergeFrom` are `add_entry_value`, `set_entry_value`, `prepend_entry_value`, `rename_section`, `merge_from`.  The lemmas say what
    each operation does to `entriesOf` (`renameSection`: for two different names). -/
namespace MM
abbrev Str := List Char
abbrev Entries := List (Str × Str)
abbrev SUnit := List (Str × Entries)

def entriesOf (u : SUnit) (sec : Str) : Entries := (u.lookup sec).getD []
def hasSection (u : SUnit) (sec : Str) : Bool := (u.lookup sec).isSome

/-- apply `f` to the (unique) section `sec`; create it at the end with `f []` when absent -/
def modifySection : SUnit → Str → (Entries → Entries) → SUnit
  | [], sec, f => [(sec, f [])]
  | (s, es) :: u, sec, f => if s == sec then (s, f es) :: u else (s, es) :: modifySection u sec f

def removeSection (u : SUnit) (sec : Str) : SUnit := u.filter (fun p => !(p.1 == sec))

def setIn (es : Entries) (key raw : Str) : Entries :=
  es.filter (fun kv => !(kv.1 == key)) ++ (es.filter (fun kv => kv.1 == key)).dropLast ++ [(key, raw)]

def addEntry (u : SUnit) (sec key raw : Str) : SUnit := modifySection u sec (· ++ [(key, raw)])
def setEntry (u : SUnit) (sec key raw : Str) : SUnit := modifySection u sec (setIn · key raw)
def addAll (u : SUnit) (sec : Str) (es : Entries) : SUnit := es.foldl (fun u kv => addEntry u sec kv.1 kv.2) u
def prependEntry (u : SUnit) (sec key raw : Str) : SUnit :=
  removeSection u sec ++ [(sec, (key, raw) :: entriesOf u sec)]
def renameSection (u : SUnit) (frm to : Str) : SUnit :=
  if hasSection u frm then addAll (removeSection u frm) to (entriesOf u frm) else u
def mergeFrom (u o : SUnit) : SUnit := o.foldl (fun u p => addAll u p.1 p.2) u

theorem lookup_cons_if {β : Type} (a : Str) (es : β) (u : List (Str × β)) (s : Str) :
    ((a, es) :: u).lookup s = if s = a then some es else u.lookup s := by
  rw [List.lookup_cons]
  cases h : s == a with
  | true => rw [if_pos (by simpa using h)]
  | false => rw [if_neg (by simpa using h)]

theorem lookup_map_val {β γ : Type} (g : Str → β → γ) (l : List (Str × β)) (s : Str) :
    (l.map fun p => (p.1, g p.1 p.2)).lookup s = (l.lookup s).map (g s) := by
  induction l with
  | nil => rfl
  | cons p l ih =>
    obtain ⟨a, b⟩ := p
    simp only [List.map_cons, lookup_cons_if, ih]
    split
    · subst ‹s = a›; rfl
    · rfl

theorem lookup_modify (u : SUnit) (sec : Str) (f : Entries → Entries) (s' : Str) :
    (modifySection u sec f).lookup s' = if s' = sec then some (f (entriesOf u sec)) else u.lookup s' := by
  induction u with
  | nil => simp [modifySection, entriesOf, lookup_cons_if]
  | cons p u ih =>
    obtain ⟨a, es⟩ := p
    by_cases ha : a = sec
    · subst ha; by_cases hs : s' = a <;> simp [modifySection, entriesOf, lookup_cons_if, hs]
    · have hb : (a == sec) = false := by simpa using ha
      simp only [modifySection, hb, Bool.false_eq_true, if_false, lookup_cons_if, ih, entriesOf, Ne.symm ha]
      by_cases hs : s' = a
      · subst hs; simp [ha]
      · simp [hs]

theorem lookup_remove (u : SUnit) (sec s' : Str) :
    (removeSection u sec).lookup s' = if s' = sec then none else u.lookup s' := by
  induction u with
  | nil => simp [removeSection]
  | cons p u ih =>
    obtain ⟨a, es⟩ := p
    simp only [removeSection, List.filter_cons] at ih ⊢
    by_cases ha : a = sec
    · subst ha
      simp only [beq_self_eq_true, Bool.not_true, Bool.false_eq_true, if_false, ih, lookup_cons_if]
      split <;> rfl
    · have hb : (a == sec) = false := by simpa using ha
      simp only [hb, Bool.not_false, if_true, lookup_cons_if, ih]
      by_cases hs : s' = a
      · subst hs; simp [ha]
      · simp [hs]

@[simp] theorem entriesOf_nil (s : Str) : entriesOf [] s = [] := rfl

theorem entriesOf_cons (a : Str) (es : Entries) (u : SUnit) (s : Str) :
    entriesOf ((a, es) :: u) s = if s = a then es else entriesOf u s := by
  rw [entriesOf, lookup_cons_if]; split <;> rfl

theorem entriesOf_modify (u : SUnit) (sec : Str) (f : Entries → Entries) (s' : Str) :
    entriesOf (modifySection u sec f) s' = if s' = sec then f (entriesOf u sec) else entriesOf u s' := by
  unfold entriesOf; rw [lookup_modify]; split <;> rfl

theorem entriesOf_remove (u : SUnit) (sec s' : Str) :
    entriesOf (removeSection u sec) s' = if s' = sec then [] else entriesOf u s' := by
  unfold entriesOf; rw [lookup_remove]; split <;> rfl

theorem entriesOf_addEntry (u : SUnit) (sec key raw s' : Str) :
    entriesOf (addEntry u sec key raw) s' = if s' = sec then entriesOf u sec ++ [(key, raw)] else entriesOf u s' :=
  entriesOf_modify u sec _ s'

theorem entriesOf_setEntry (u : SUnit) (sec key raw s' : Str) :
    entriesOf (setEntry u sec key raw) s' = if s' = sec then setIn (entriesOf u sec) key raw else entriesOf u s' :=
  entriesOf_modify u sec _ s'

theorem modify_modify (u : SUnit) (sec : Str) (f g : Entries → Entries) :
    modifySection (modifySection u sec f) sec g = modifySection u sec fun es => g (f es) := by
  induction u with
  | nil => simp [modifySection]
  | cons p u ih => by_cases h : p.1 = sec <;> simp [modifySection, h, ih]

/-- only for a non-empty list: `addAll u sec [] = u` creates no section -/
theorem addAll_cons (u : SUnit) (sec : Str) (e : Str × Str) (es : Entries) :
    addAll u sec (e :: es) = modifySection u sec (· ++ e :: es) := by
  induction es generalizing u e with
  | nil => rfl
  | cons e' es ih =>
    rw [show addAll u sec (e :: e' :: es) = addAll (addEntry u sec e.1 e.2) sec (e' :: es) from rfl, ih, addEntry, modify_modify]
    simp

theorem entriesOf_addAll (u : SUnit) (sec : Str) (es : Entries) (s' : Str) :
    entriesOf (addAll u sec es) s' = if s' = sec then entriesOf u sec ++ es else entriesOf u s' := by
  cases es with
  | nil => split <;> simp [addAll, *]
  | cons e es => rw [addAll_cons, entriesOf_modify]

theorem entriesOf_prepend (u : SUnit) (sec key raw s' : Str) :
    entriesOf (prependEntry u sec key raw) s' =
      if s' = sec then (key, raw) :: entriesOf u sec else entriesOf u s' := by
  unfold prependEntry
  rw [entriesOf, List.lookup_append, lookup_remove, lookup_cons_if]
  split <;> simp [entriesOf]

theorem entriesOf_rename (u : SUnit) (frm to s' : Str) (hne : frm ≠ to) :
    entriesOf (renameSection u frm to) s' =
      if s' = frm then [] else if s' = to then entriesOf u to ++ entriesOf u frm else entriesOf u s' := by
  unfold renameSection
  cases hh : hasSection u frm with
  | true =>
    simp only [if_true]
    rw [entriesOf_addAll, entriesOf_remove, entriesOf_remove, if_neg (Ne.symm hne)]
    by_cases h1 : s' = frm
    · subst h1; simp [hne]
    · simp [h1]
  | false =>
    have hn : entriesOf u frm = [] := by
      simp only [hasSection, Option.isSome_eq_false_iff, Option.isNone_iff_eq_none] at hh
      simp [entriesOf, hh]
    simp only [Bool.false_eq_true, if_false, hn, List.append_nil]
    by_cases h1 : s' = frm
    · subst h1; simp [hn]
    · by_cases h2 : s' = to <;> simp [h1, h2, Ne.symm hne]

theorem filter_setIn_ne (es : Entries) (key raw k : Str) (h : k ≠ key) :
    (setIn es key raw).filter (fun e => e.1 == k) = es.filter (fun e => e.1 == k) := by
  -- an entry of key `key` is none of key `k`: of the three parts of `setIn` the last two go, the first is filtered as `es` is
  have off : ∀ x : Str × Str, (x.1 == key) = true → (x.1 == k) = false := fun x hx =>
    beq_false_of_ne fun e => h (e.symm.trans (beq_iff_eq.mp hx))
  have e1 : (es.filter (fun kv => kv.1 == key)).dropLast.filter (fun e => e.1 == k) = [] :=
    List.filter_eq_nil_iff.mpr fun x hx => by
      rw [off x (List.mem_filter.mp ((List.dropLast_sublist _).subset hx)).2]; exact Bool.false_ne_true
  have e2 : [(key, raw)].filter (fun e => e.1 == k) = [] := by
    rw [List.filter_cons_of_neg (by rw [off _ (beq_self_eq_true key)]; exact Bool.false_ne_true), List.filter_nil]
  unfold setIn
  rw [List.filter_append, List.filter_append, e1, e2, List.append_nil, List.append_nil, List.filter_filter]
  refine List.filter_congr fun x _ => ?_
  cases hk : x.1 == key
  · rw [Bool.not_false, Bool.and_true]
  · rw [off x hk]; rfl

theorem mem_setIn (es : Entries) (key raw : Str) (e : Str × Str) (h : e ∈ setIn es key raw) : e ∈ es ∨ e = (key, raw) := by
  unfold setIn at h
  rcases List.mem_append.mp h with h | h
  · rcases List.mem_append.mp h with h | h
    · exact Or.inl (List.mem_filter.mp h).1
    · exact Or.inl (List.mem_filter.mp ((List.dropLast_sublist _).subset h)).1
  · simp only [List.mem_singleton] at h; exact Or.inr h

end MM
