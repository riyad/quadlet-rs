import QM.Unquote
import QM.QuoteLemmas
/-! Documented spellings of a value (systemd.syntax) and the theorem that the unquoter model reads every one of
    them back as the string it denotes.  A spelling is a list of *segments*: a quoted run `q … q` (q one of the two
    quote characters) or a bare run; runs consist of *pieces*: a literal character or a C-style escape.
    Then `Passes s`: the unquoter gets past the text `s` in any state.  It is closed under append, and what `quote_value` /
    `quote_words` write passes: hence it is accepted (C01_storable, C11). -/
namespace P

inductive Piece
  | lit (c : Char)
  | esc (e : Str) (c : Char)     -- backslash followed by `e`, denoting `c`

def Piece.text : Piece → Str
  | .lit c => [c]
  | .esc e _ => '\\' :: e
def Piece.char : Piece → Char
  | .lit c => c
  | .esc _ c => c

inductive Seg
  | quoted (q : Char) (ps : List Piece)
  | bare (ps : List Piece)

def renderPieces (ps : List Piece) : Str := ps.flatMap Piece.text
def denotePieces (ps : List Piece) : Str := ps.map Piece.char

def Seg.text : Seg → Str
  | .quoted q ps => q :: (renderPieces ps ++ [q])
  | .bare ps => renderPieces ps
def Seg.denote : Seg → Str
  | .quoted _ ps => denotePieces ps
  | .bare ps => denotePieces ps

def renderSegs (segs : List Seg) : Str := segs.flatMap Seg.text
def denoteSegs (segs : List Seg) : Str := segs.flatMap Seg.denote

/-- an escape form denotes its character wherever it stands -/
def EscOK (e : Str) (c : Char) : Prop := ∀ t, decode quotedCfg (e ++ t) = some (c, t)

/-- "at the beginning of the value or after whitespace": the decoded text so far is empty or ends in
    space, tab or newline -/
def opensOK (acc : Str) : Bool := acc.isEmpty || endsWs acc

/-- inside quotes every character is literal except the closing quote and the backslash -/
def quotedWF (q : Char) : List Piece → Prop
  | [] => True
  | .lit c :: r => c ≠ q ∧ c ≠ '\\' ∧ c ≠ '\x00' ∧ quotedWF q r
  | .esc e c :: r => EscOK e c ∧ quotedWF q r

/-- outside quotes: no literal backslash or NUL, and a literal quote character only where it cannot open a quoted run
    (`acc` = decoded text so far, reversed) -/
def bareWF : Str → List Piece → Prop
  | _, [] => True
  | acc, .lit c :: r => c ≠ '\\' ∧ c ≠ '\x00' ∧ (isQuote c = true → opensOK acc = false) ∧ bareWF (c :: acc) r
  | acc, .esc e c :: r => EscOK e c ∧ bareWF (c :: acc) r

def segsWF : Str → List Seg → Prop
  | _, [] => True
  | acc, .quoted q ps :: rest => isQuote q = true ∧ opensOK acc = true ∧ quotedWF q ps ∧ segsWF ((denotePieces ps).reverse ++ acc) rest
  | acc, .bare ps :: rest => bareWF acc ps ∧ segsWF ((denotePieces ps).reverse ++ acc) rest

/-- every single-letter escape of the specification is decoded the same way by quoted.rs (checked against the extracted table) -/
theorem quotedTbl_of_spec : ∀ p ∈ simpleTable, Gen.unescQuoted.lookup p.1 = some p.2 := by decide
theorem quotedTbl_numeric : ∀ p ∈ Gen.unescQuoted, numKindOf p.1 = none := by decide

theorem decode_quoted_of_spec {s d r} (h : decode specCfg s = some (d, r)) : decode quotedCfg s = some (d, r) :=
  decode_of_spec quotedCfg quotedTbl_of_spec quotedTbl_numeric (fun _ _ => valid_of_spec) h

theorem escOK_of_spec {e : Str} {c : Char} (h : ∀ t, decode specCfg (e ++ t) = some (c, t)) : EscOK e c :=
  fun t => decode_quoted_of_spec (h t)

theorem escOK_simple : ∀ p ∈ simpleTable, EscOK [p.1] p.2 := fun p hp => escOK_of_spec (decode_simple p hp)

theorem escOK_hex (c : Char) (hlt : c.toNat < 128) (hnz : c.toNat ≠ 0) :
    EscOK ['x', hexDigit (c.toNat / 16), hexDigit (c.toNat % 16)] c := escOK_of_spec (decode_hex c hlt hnz)

theorem unq_bs {fixed : Bool} {q : Option Char} {acc r : Str} {d r'} (h : decode quotedCfg r = some (d, r')) :
    unq fixed q acc ('\\' :: r) = unq fixed q (d :: acc) r' := by
  rw [unq]
  simp only [isQuote, show ('\\' == '"') = false by decide, show ('\\' == '\'') = false by decide,
    show ('\\' == '\x00') = false by decide,
    Bool.or_self, Bool.false_and, Bool.false_eq_true, if_false, beq_self_eq_true, if_true]
  split <;> rename_i heq <;> rw [h] at heq <;> cases heq
  rfl

theorem unq_esc_piece {q : Option Char} {acc e t : Str} {c : Char} (h : EscOK e c) :
    unq true q acc ('\\' :: e ++ t) = unq true q (c :: acc) t := unq_bs (h t)

theorem isQuote_ne {q : Char} (h : isQuote q = true) : (q == '\x00') = false ∧ (q == '\\') = false := by
  simp only [isQuote, Bool.or_eq_true, beq_iff_eq] at h
  rcases h with rfl | rfl <;> decide

theorem unq_lit (q : Option Char) (acc t : Str) (c : Char) (h0 : c ≠ '\x00') (hb : c ≠ '\\') (hq : q ≠ some c)
    (ho : isQuote c = true → q = none → opensOK acc = false) : unq true q acc (c :: t) = unq true q (c :: acc) t := by
  have hopen : (isQuote c && (!true || q.isNone) && (acc.isEmpty || endsWs acc)) = false := by
    cases hc : isQuote c with
    | false => rfl
    | true =>
      cases q with
      | some _ => rfl
      | none => simpa [opensOK] using ho hc rfl
  rw [unq]
  simp only [show (c == '\x00') = false by simpa using h0, show (c == '\\') = false by simpa using hb, hopen,
    show (q == some c) = false by simpa using hq, Bool.false_eq_true, if_false]

theorem unq_open (q : Char) (acc t : Str) (hq : isQuote q = true) (ho : opensOK acc = true) :
    unq true none acc (q :: t) = unq true (some q) acc t := by
  rw [unq]
  simp only [(isQuote_ne hq).1, hq, show (acc.isEmpty || endsWs acc) = true from ho, Bool.false_eq_true, if_false, Bool.not_true,
    Option.isNone_none, Bool.or_true, Bool.and_self, if_true]

theorem unq_close (q : Char) (acc t : Str) (hq : isQuote q = true) : unq true (some q) acc (q :: t) = unq true none acc t := by
  rw [unq]
  simp only [(isQuote_ne hq).1, (isQuote_ne hq).2, Bool.false_eq_true, if_false, Option.isNone_some, Bool.not_true, Bool.or_self,
    Bool.and_false, Bool.false_and, beq_self_eq_true, if_true]

theorem renderPieces_cons (p : Piece) (ps : List Piece) (t : Str) :
    renderPieces (p :: ps) ++ t = p.text ++ (renderPieces ps ++ t) := by
  rw [renderPieces, List.flatMap_cons, List.append_assoc]; rfl

theorem unq_quoted_pieces (q : Char) (ps : List Piece) (wf : quotedWF q ps) (acc t : Str) :
    unq true (some q) acc (renderPieces ps ++ t) = unq true (some q) ((denotePieces ps).reverse ++ acc) t := by
  induction ps generalizing acc with
  | nil => rfl
  | cons p ps ih =>
    rw [renderPieces_cons, denotePieces, List.map_cons, List.reverse_cons, List.append_assoc]
    cases p with
    | lit c => exact (unq_lit (some q) acc _ c wf.2.2.1 wf.2.1 (fun e => wf.1 (Option.some.inj e).symm) fun _ h => nomatch h).trans (ih wf.2.2.2 _)
    | esc e c => exact (unq_esc_piece wf.1).trans (ih wf.2 _)

theorem unq_bare_pieces (ps : List Piece) (acc t : Str) (wf : bareWF acc ps) :
    unq true none acc (renderPieces ps ++ t) = unq true none ((denotePieces ps).reverse ++ acc) t := by
  induction ps generalizing acc with
  | nil => rfl
  | cons p ps ih =>
    rw [renderPieces_cons, denotePieces, List.map_cons, List.reverse_cons, List.append_assoc]
    cases p with
    | lit c => exact (unq_lit none acc _ c wf.2.1 wf.1 (fun h => nomatch h) fun hq _ => wf.2.2.1 hq).trans (ih _ wf.2.2.2)
    | esc e c => exact (unq_esc_piece wf.1).trans (ih _ wf.2)

theorem unq_segs (segs : List Seg) (acc : Str) (wf : segsWF acc segs) :
    unq true none acc (renderSegs segs) = some ((denoteSegs segs).reverse ++ acc).reverse := by
  induction segs generalizing acc with
  | nil => simp [renderSegs, denoteSegs, unq]
  | cons sg segs ih =>
    have d : (denoteSegs (sg :: segs)).reverse ++ acc = (denoteSegs segs).reverse ++ (sg.denote.reverse ++ acc) := by
      simp [denoteSegs]
    rw [renderSegs, List.flatMap_cons, d]
    cases sg with
    | quoted q ps =>
      obtain ⟨hq, hopen, hps, hrest⟩ := wf
      rw [Seg.text, List.cons_append, List.append_assoc, unq_open q _ _ hq hopen, unq_quoted_pieces q ps hps,
        List.singleton_append, unq_close q _ _ hq]
      exact ih _ hrest
    | bare ps => exact (unq_bare_pieces ps acc _ wf.1).trans (ih _ wf.2)

/-- the repaired unquoter gets past `s` without an error, whatever state it is in -/
def Passes (s : Str) : Prop := ∀ q acc t, ∃ q' acc', unq true q acc (s ++ t) = unq true q' acc' t

theorem Passes.nil : Passes [] := fun q acc _ => ⟨q, acc, rfl⟩

theorem Passes.append {s₁ s₂ : Str} (h₁ : Passes s₁) (h₂ : Passes s₂) : Passes (s₁ ++ s₂) := fun q acc t => by
  obtain ⟨q₁, a₁, e₁⟩ := h₁ q acc (s₂ ++ t)
  obtain ⟨q₂, a₂, e₂⟩ := h₂ q₁ a₁ t
  exact ⟨q₂, a₂, by rw [List.append_assoc, e₁, e₂]⟩

theorem Passes.flatMap {α} (f : α → Str) (l : List α) (h : ∀ a ∈ l, Passes (f a)) : Passes (l.flatMap f) := by
  induction l with
  | nil => exact .nil
  | cons a l ih =>
    rw [List.flatMap_cons]
    exact (h a (by simp)).append (ih fun b hb => h b (by simp [hb]))

/-- a literal character other than NUL and the backslash opens a quote, closes one or is copied -/
theorem Passes.lit {c : Char} (h0 : c ≠ '\x00') (hb : c ≠ '\\') : Passes [c] := fun q acc t => by
  rw [List.singleton_append, unq]
  simp only [show (c == '\x00') = false by simpa using h0, show (c == '\\') = false by simpa using hb,
    Bool.false_eq_true, if_false]
  split
  · exact ⟨_, _, rfl⟩
  · split <;> exact ⟨_, _, rfl⟩

theorem Passes.esc {e : Str} {c : Char} (h : EscOK e c) : Passes ('\\' :: e) :=
  fun q acc _ => ⟨q, c :: acc, unq_esc_piece h⟩

theorem Passes.accepted {s : Str} (h : Passes s) (q : Option Char) (acc : Str) : ∃ r, unq true q acc s = some r := by
  obtain ⟨q', acc', e⟩ := h q acc []
  exact ⟨acc'.reverse, by rw [← List.append_nil s, e, unq]⟩

theorem quoteValue_pieces (s : Str) (hs : ∀ c ∈ s, c ≠ '\x00') :
    ∃ ps, quoteValue s = renderPieces ps ∧ denotePieces ps = s ∧ quotedWF '"' ps := by
  induction s with
  | nil => exact ⟨[], rfl, rfl, trivial⟩
  | cons c s ih =>
    obtain ⟨ps, e, rfl, wf⟩ := ih fun d hd => hs d (by simp [hd])
    have hc := hs c (by simp)
    rw [quoteValue_cons, e]
    rcases escChar_spec c hc with ⟨h, h1, h2⟩ | ⟨x, h, hd⟩
    · exact ⟨.lit c :: ps, by rw [h]; rfl, rfl, h1, h2, hc, wf⟩
    · exact ⟨.esc x c :: ps, by rw [h]; rfl, rfl, escOK_of_spec hd, wf⟩

theorem passes_escChar (c : Char) (hc : c ≠ '\x00') : Passes (escChar c) := by
  rcases escChar_spec c hc with ⟨h, _, h2⟩ | ⟨e, h, hd⟩
  · rw [h]; exact .lit hc h2
  · rw [h]; exact .esc (escOK_of_spec hd)

theorem passes_quoteValue (s : Str) (hs : ∀ c ∈ s, c ≠ '\x00') : Passes (quoteValue s) :=
  .flatMap escChar s fun c hc => passes_escChar c (hs c hc)

/-- a NUL-free string stored with `add`/`set`/`prepend` (escaped by `quote_value`) can always be read back:
    the `expect` in `EntryValue::unquote` cannot fire on it -/
theorem unquote_quoteValue (s : Str) (hs : ∀ c ∈ s, c ≠ '\x00') :
    ∀ (q : Option Char) (acc : Str), ∃ r, unq true q acc (quoteValue s) = some r :=
  (passes_quoteValue s hs).accepted

theorem passes_quoteWord (w : Str) (hw : ∀ c ∈ w, c ≠ '\x00') : Passes (quoteWord w) := by
  rcases quoteWord_cases w with h | ⟨_, _, _, hall, h⟩ <;> rw [h]
  · exact (Passes.lit (by decide) (by decide)).append ((passes_quoteValue w hw).append (.lit (by decide) (by decide)))
  · rw [← quoteValue_plain w hall]; exact passes_quoteValue w hw

theorem passes_joinSp (ws : List Str) (h : ∀ w ∈ ws, Passes w) : Passes (joinSp ws) := by
  cases ws with
  | nil => exact .nil
  | cons w ws =>
    rw [joinSp_cons]
    exact (h w List.mem_cons_self).append
      (.flatMap _ ws fun x hx => (Passes.lit (by decide) (by decide)).append (h x (List.mem_cons_of_mem _ hx)))

/-- a rendered command line of NUL-free arguments is accepted by the validation of `add_raw` -/
theorem unquote_quoteWords (ws : List Str) (hw : ∀ w ∈ ws, ∀ c ∈ w, c ≠ '\x00') :
    ∃ r, unquoteValue true (quoteWords ws) = some r :=
  (passes_joinSp _ fun x hx => by
    obtain ⟨w, hm, rfl⟩ := List.mem_map.mp hx
    exact passes_quoteWord w (hw w hm)).accepted none []

end P
