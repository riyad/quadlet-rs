import QM.ConvFrames
import QM.MMapLemmas
import QM.QuoteLemmas
/-! What every conversion keeps of the user's unit.  A successful conversion has one shape (`Converts`): `merge_from` of
    the unit, writes (`Built`), the renaming of the unit's own section and of [Quadlet], writes.  C01 (`Converts.execs`), C06
    (`.noNL`) and C07 (`.sections`, `.unmanaged`, `.grows`) at the level of whole converters are consequences of that shape. -/
namespace Cv
open MM

/-- `svc` is built from the unit `u` whose own section is `own`, kept as `xown` -/
structure Converts (u svc : SUnit) (own xown : Str) : Prop where
  ne : own ≠ xown
  own_fresh : own ∉ [s "Unit", s "Service", s "Quadlet", s "X-Quadlet"]
  xown_fresh : xown ∉ [s "Unit", s "Service", s "Quadlet", s "X-Quadlet"]
  built : ∃ start, Built allPairs (mergeFrom [] u) start ∧ Built allPairs (preOf start own xown) svc

theorem entriesOf_preOf (start : SUnit) {own xown S : Str} (hx : own ≠ xown) (hS : S ∉ [own, xown, s "Quadlet", s "X-Quadlet"]) :
    entriesOf (preOf start own xown) S = entriesOf start S := by
  simp only [List.mem_cons, List.not_mem_nil, or_false, not_or] at hS
  unfold preOf
  rw [entriesOf_rename _ _ _ _ (by decide), if_neg hS.2.2.1, if_neg hS.2.2.2, entriesOf_rename _ _ _ _ hx, if_neg hS.1, if_neg hS.2.1]

/-- the statement about sections that every converter satisfies (`own` = the unit's Quadlet section, `xown` = "X-" ++ own):
    every section other than own, X-own, Quadlet, X-Quadlet, Unit and Service is copied verbatim and in order; the own
    section is kept verbatim under X-own after whatever the user already had there, [Quadlet] under [X-Quadlet]; no
    section named own or Quadlet remains -/
def SectionsKept (u svc : SUnit) (own xown : Str) : Prop :=
  (∀ S, S ∉ [own, xown, s "Quadlet", s "X-Quadlet", s "Unit", s "Service"] → entriesOf svc S = entriesOf u S) ∧
  entriesOf svc xown = entriesOf u xown ++ entriesOf u own ∧
  entriesOf svc (s "X-Quadlet") = entriesOf u (s "X-Quadlet") ++ entriesOf u (s "Quadlet") ∧
  entriesOf svc own = [] ∧ entriesOf svc (s "Quadlet") = []

def UnmanagedKept (u svc : SUnit) (own xown : Str) : Prop :=
  ∀ S k, (S, k) ∉ managed → S ∉ [own, xown, s "Quadlet", s "X-Quadlet"] → keyEntries svc S k = keyEntries u S k

def UserEntriesKept (u svc : SUnit) (own xown : Str) : Prop :=
  ∀ S k, (S, k) ∉ setPairs → S ∉ [own, xown, s "Quadlet", s "X-Quadlet"] → (keyEntries u S k).Sublist (keyEntries svc S k)

def AllNoNL (u : SUnit) : Prop := ∀ S, ∀ e ∈ entriesOf u S, '\n' ∉ e.1 ∧ '\n' ∉ e.2

/-- `quote_value` and `quote_words` produce no newline; the keys are managed ones, literals without one -/
theorem Written.noNL {S : Str} {e : Str × Str} (w : Written allPairs S e) : '\n' ∉ e.1 ∧ '\n' ∉ e.2 := by
  cases w with
  | quoted v hk h2 =>
    exact ⟨managed_noNL (S, e.1) (hk.elim (written_managed.1 _) (written_managed.2.1 _)), h2 ▸ P.C06_quoteValue_no_newline v⟩
  | raw args _ hk h2 => exact ⟨managed_noNL (s "Service", e.1) (written_managed.2.2 _ hk), h2 ▸ P.C06_quoteWords_no_newline args⟩

theorem xr_defaultDeps (svc : SUnit) : ExecRendered svc (defaultDeps svc) :=
  (built_defaultDeps svc).execRendered written_not_exec.1

namespace Converts
variable {u svc : SUnit} {own xown : Str}

theorem sections (c : Converts u svc own xown) (hnd : (u.map Prod.fst).Nodup) : SectionsKept u svc own xown := by
  obtain ⟨hx, ho, hxo, start, h₁, h₂⟩ := c
  simp only [List.mem_cons, List.not_mem_nil, or_false, not_or] at ho hxo
  obtain ⟨ho1, ho2, ho3, ho4⟩ := ho
  obtain ⟨hx1, hx2, hx3, hx4⟩ := hxo
  have hq : s "Quadlet" ≠ s "X-Quadlet" := by decide
  -- outside [Unit] and [Service] nothing is written: `svc` has the sections of `preOf start own xown`, `start` those of `u`
  have frame : ∀ {a b S}, Built allPairs a b → S ≠ s "Unit" → S ≠ s "Service" → entriesOf b S = entriesOf a S := fun h hU hS =>
    h.entriesOf_eq (fun p hp e => (allPairs_unit_or_service p hp).elim (fun e' => hU (e.trans e')) (fun e' => hS (e.trans e'))) hS
  have base : ∀ S, S ≠ s "Unit" → S ≠ s "Service" → entriesOf start S = entriesOf u S := fun S hU hS => by
    rw [frame h₁ hU hS, entriesOf_merged u hnd]
  have pre : ∀ S, S ≠ s "Unit" → S ≠ s "Service" → entriesOf svc S = entriesOf (preOf start own xown) S := fun S hU hS => frame h₂ hU hS
  unfold preOf at pre
  refine ⟨?_, ?_, ?_, ?_, ?_⟩
  · intro S hS
    simp only [List.mem_cons, List.not_mem_nil, or_false, not_or] at hS
    obtain ⟨h1, h2, h3, h4, h5, h6⟩ := hS
    rw [pre S h5 h6, entriesOf_rename _ _ _ _ hq, if_neg h3, if_neg h4, entriesOf_rename _ _ _ _ hx, if_neg h1, if_neg h2, base S h5 h6]
  · rw [pre _ hx1 hx2, entriesOf_rename _ _ _ _ hq, if_neg hx3, if_neg hx4, entriesOf_rename _ _ _ _ hx, if_neg (Ne.symm hx), if_pos rfl,
      base _ hx1 hx2, base _ ho1 ho2]
  · rw [pre _ (by decide) (by decide), entriesOf_rename _ _ _ _ hq, if_neg (Ne.symm hq), if_pos rfl,
      entriesOf_rename _ _ _ _ hx, if_neg (Ne.symm ho4), if_neg (Ne.symm hx4),
      entriesOf_rename _ _ _ _ hx, if_neg (Ne.symm ho3), if_neg (Ne.symm hx3), base _ (by decide) (by decide), base _ (by decide) (by decide)]
  · rw [pre _ ho1 ho2, entriesOf_rename _ _ _ _ hq, if_neg ho3, if_neg ho4, entriesOf_rename _ _ _ _ hx, if_pos rfl]
  · rw [pre _ (by decide) (by decide), entriesOf_rename _ _ _ _ hq, if_pos rfl]

/-- the pairs written to are managed ones -/
theorem unmanaged (c : Converts u svc own xown) (hnd : (u.map Prod.fst).Nodup) : UnmanagedKept u svc own xown := by
  obtain ⟨hx, _, _, start, h₁, h₂⟩ := c
  intro S k hk hS
  rw [h₂.keyEntries_eq_outside written_managed hk, keyEntries_congr (entriesOf_preOf start hx hS),
    h₁.keyEntries_eq_outside written_managed hk, keyEntries_congr (entriesOf_merged u hnd S)]

theorem grows (c : Converts u svc own xown) (hnd : (u.map Prod.fst).Nodup) : UserEntriesKept u svc own xown := by
  obtain ⟨hx, _, _, start, h₁, h₂⟩ := c
  intro S k hk hS
  have g₁ := h₁.sublist hk
  have g₂ := h₂.sublist hk
  rw [keyEntries_congr (entriesOf_merged u hnd S)] at g₁
  rw [keyEntries_congr (entriesOf_preOf start hx hS)] at g₂
  exact g₁.trans g₂

/-- every entry of the generated service is the user's — in the same section, or in the one that was renamed to it — or was
    written by the generator: `merge_from` and `rename_section` copy entries -/
theorem mem (c : Converts u svc own xown) (hnd : (u.map Prod.fst).Nodup) {S : Str} {e : Str × Str} (he : e ∈ entriesOf svc S) :
    ∃ S', (S' = S ∨ S' = own ∧ S = xown ∨ S' = s "Quadlet" ∧ S = s "X-Quadlet") ∧ (e ∈ entriesOf u S' ∨ Written allPairs S' e) := by
  obtain ⟨hx, _, hxo, start, h₁, h₂⟩ := c
  have user : ∀ {S'}, e ∈ entriesOf start S' → e ∈ entriesOf u S' ∨ Written allPairs S' e := fun h =>
    (h₁.mem h).imp_left fun h => by rwa [entriesOf_merged u hnd] at h
  rcases h₂.mem he with h | h
  · rcases mem_rename (by decide) h with h | ⟨hS, h⟩
    · rcases mem_rename hx h with h | ⟨hS, h⟩
      · exact ⟨S, .inl rfl, user h⟩
      · exact ⟨own, .inr (.inl ⟨rfl, hS⟩), user h⟩
    · rcases mem_rename hx h with h | ⟨hq, _⟩
      · exact ⟨_, .inr (.inr ⟨rfl, hS⟩), user h⟩
      · exact absurd (hq ▸ by simp) hxo
  · exact ⟨S, .inl rfl, .inr h⟩

theorem execs (c : Converts u svc own xown) (hnd : (u.map Prod.fst).Nodup) :
    ∀ e ∈ entriesOf svc (s "Service"), e.1 ∈ execKeys → e ∈ entriesOf u (s "Service") ∨ ∃ cmd, e.2 = P.quoteWords cmd := by
  intro e he hk
  obtain ⟨S', hS, h⟩ := c.mem hnd he
  have : S' = s "Service" := by
    rcases hS with h | ⟨_, h⟩ | ⟨_, h⟩
    · exact h
    · exact absurd (h ▸ List.mem_cons_of_mem _ List.mem_cons_self) c.xown_fresh
    · exact absurd h (by decide)
  exact this ▸ h.imp_right (·.rendered written_not_exec.1 hk)

theorem noNL (c : Converts u svc own xown) (hnd : (u.map Prod.fst).Nodup) (hu : AllNoNL u) : AllNoNL svc := fun _ e he =>
  let ⟨S', _, h⟩ := c.mem hnd he
  h.elim (hu S' e) Written.noNL

end Converts

def ownSections : List (Str × Str) :=
  [(s "Image", s "X-Image"), (s "Volume", s "X-Volume"), (s "Network", s "X-Network"), (s "Pod", s "X-Pod"),
   (s "Kube", s "X-Kube"), (s "Build", s "X-Build"), (s "Container", s "X-Container")]

theorem ownSections_fresh : ∀ p ∈ ownSections, p.1 ≠ p.2 ∧
    p.1 ∉ [s "Unit", s "Service", s "Quadlet", s "X-Quadlet"] ∧ p.2 ∉ [s "Unit", s "Service", s "Quadlet", s "X-Quadlet"] := by
  simp only [ownSections, List.forall_mem_cons]
  simp only [ne_eq, List.mem_cons, List.not_mem_nil, s_inj, String.reduceEq, or_self, not_false_eq_true, and_self, false_imp_iff,
    implies_true]

theorem Converts.of_built {u svc start : SUnit} {own xown : Str} (h₁ : Built allPairs (mergeFrom [] u) start)
    (h₂ : Built allPairs (preOf start own xown) svc)
    (hm : (own, xown) ∈ ownSections := by simp only [ownSections, List.mem_cons, true_or, or_true]) : Converts u svc own xown :=
  have ⟨a, b, c⟩ := ownSections_fresh _ hm
  ⟨a, b, c, start, h₁, h₂⟩

theorem converts_fromImage {E : Env} {path : Str} {u svc : SUnit} {r : Str} (h : fromImage E path u = .ok (svc, r)) :
    Converts u svc (s "Image") (s "X-Image") := .of_built (built_startService path u) (frame_fromImage h).all
theorem converts_fromVolume {E : Env} {path : Str} {u svc : SUnit} {n : Str} (h : fromVolume E path u = .ok (svc, n)) :
    Converts u svc (s "Volume") (s "X-Volume") := .of_built (built_startService path u) (frame_fromVolume h).all
theorem converts_fromNetwork {E : Env} {path : Str} {u svc : SUnit} {n : Str} (h : fromNetwork E path u = .ok (svc, n)) :
    Converts u svc (s "Network") (s "X-Network") := .of_built (built_startService path u) (frame_fromNetwork h).all
theorem converts_fromPod {E : Env} {path : Str} {u svc : SUnit} {cs : List Str} (h : fromPod E path u cs = .ok svc) :
    Converts u svc (s "Pod") (s "X-Pod") := .of_built (built_startService path u) (frame_fromPod h)
theorem converts_fromKube {E : Env} {path : Str} {u svc : SUnit} (h : fromKube E path u = .ok svc) :
    Converts u svc (s "Kube") (s "X-Kube") := .of_built (built_startService path u) (frame_fromKube h).all
theorem converts_fromBuild {E : Env} {path : Str} {u svc : SUnit} (h : fromBuild E path u = .ok svc) :
    Converts u svc (s "Build") (s "X-Build") := .of_built (built_buildStart path u) (frame_fromBuild h).all
theorem converts_fromContainer {E : Env} {path : Str} {u svc : SUnit} {link : Option (Str × Str)}
    (h : fromContainer E path u = some (.ok (svc, link))) : Converts u svc (s "Container") (s "X-Container") :=
  .of_built (built_startService path u) (frame_fromContainer h).all

end Cv
