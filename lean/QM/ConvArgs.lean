import QM.ConvDelta
import QM.ConvAlong
/-! The reference handlers (`handle_image_source`, `handle_storage_source`, `handle_networks`, `handle_volumes`, the `Mount=` loop,
    `handle_pod`) thread the service through while they collect arguments.  Each has an *argument projection* — a function of the
    environment and the unit alone — and one statement, `Along` (QM/ConvAlong.lean), says all that is used of it: the handler ends
    as its projection does, and where it succeeds the service it returns is built from the one it was given.  Only `handle_pod`,
    which returns the link to record as well, has its own statements instead (`handlePod_ok`; `handlePod_noUK`, QM/ConvNoUK.lean).

    With the projections as blocks the commands of the .pod, .kube, .volume and .container converters are segment lists: for each
    one equation writes the concatenation of the blocks as the command the converter builds (`<type>Cmd_segs`), and `from<Type>_segs`
    opens the converter; the whole-command shapes `C02_<type>_shape` of .pod, .volume and .container are read off the two (that of
    .kube, QM/ConvCmd.lean, is read off the converter itself). -/
namespace Cv
open MM

def fstR {α β} (r : R (α × β)) : R α := match r with | .ok p => .ok p.1 | .error e => .error e

theorem foldlM_fst {α A S} (f : A × S → α → R (A × S)) (g : A → α → R A)
    (h : ∀ a sv x, fstR (f (a, sv) x) = g a x) :
    ∀ (l : List α) (a : A) (sv : S), fstR (l.foldlM f (a, sv)) = l.foldlM g a := by
  intro l
  induction l with
  | nil => intro a sv; rfl
  | cons x l ih =>
    intro a sv
    simp only [List.foldlM_cons, ← h a sv x]
    cases f (a, sv) x with
    | error e => rfl
    | ok p => exact ih p.1 p.2

theorem Along.fst {α : Type} {svc : SUnit} {x : R (α × SUnit)} {y : R α} (h : Along svc x y) : fstR x = y := by cases h <;> rfl

/-! ### Network= -/
def networkRefName (E : Env) (name : Str) : R Str :=
  if endsWith name (s ".network") || endsWith name (s ".container") then
    match E.info name with
    | none => .error (Err.internal (s "unit") name)
    | some i => if i.resourceName.isEmpty then .error (Err.resourceName name) else .ok i.resourceName
  else .ok name

theorem networkRef_along (E : Env) (name : Str) (svc : SUnit) : Along svc (networkRef E name svc) (networkRefName E name) := by
  unfold networkRef networkRefName
  refine .ite (fun _ => ?_) fun _ => .same _
  cases E.info name with
  | none => exact .error _ rfl
  | some i => exact .ite (fun _ => .error _ rfl) fun _ => .ok _ (.dependsOn _)

def networkArgStep (E : Env) (acc : List Str) (network : Str) : R (List Str) :=
  if network.isEmpty then .ok acc else
  let name := netNameOf network
  let isCtr := endsWith name (s ".container")
  match networkRefName E name with
  | .error e => .error e
  | .ok r =>
    match netOptionsOf network with
    | some o => if isCtr then .error .networkOptions else .ok (acc ++ [s "--network", r ++ ':' :: o])
    | none => if isCtr then .ok (acc ++ [s "--network", s "container:" ++ r])
              else .ok (acc ++ [s "--network", r])

theorem networkStep_along (E : Env) (a : List Str) (sv : SUnit) (nw : Str) :
    Along sv (networkStep E (a, sv) nw) (networkArgStep E a nw) := by
  unfold networkStep networkArgStep
  refine .ite (fun _ => .same _) fun _ => ?_
  -- the step hands an error on by an explicit `match … with | .error e => .error e | .ok r => …` (not a `bind`: the auxiliary
  -- matcher is its own, no lemma about `match` applies to it).  So the two runs in the `Along` fact of the step before are
  -- `generalize`d and the cases taken on that fact: both matches then reduce together.  Likewise in `volumeStep_along`,
  -- `mountTokStep_along`, `mountsStep_along`
  have h := networkRef_along E (netNameOf nw) sv
  simp only
  generalize networkRef E (netNameOf nw) sv = x, networkRefName E (netNameOf nw) = y at h
  cases h with
  | error e he => exact .error e he
  | ok r hb =>
    cases netOptionsOf nw with
    | none => exact .ite (fun _ => .ok _ hb) fun _ => .ok _ hb
    | some o => exact .ite (fun _ => .error _ rfl) fun _ => .ok _ hb

/-- the `--network` arguments: a function of the name table and the unit's `Network=` values -/
def networkArgs (E : Env) (u : SUnit) (sec : Str) : R (List Str) := (lookupAll u sec (s "Network")).foldlM (networkArgStep E) []

theorem handleNetworks_along (E : Env) (u : SUnit) (sec : Str) (svc : SUnit) :
    Along svc (handleNetworks E u sec svc) (networkArgs E u sec) :=
  Along.foldlM (networkStep_along E) _ [] svc

theorem handleNetworks_args (E : Env) (u : SUnit) (sec : Str) (svc : SUnit) (r : List Str × SUnit)
    (h : handleNetworks E u sec svc = .ok r) : networkArgs E u sec = .ok r.1 :=
  (handleNetworks_along E u sec svc).args h

/-! ### Volume= and the sources of Mount= -/
def storageSourceName (E : Env) (unitPath source : Str) (checkImage : Bool) : R Str :=
  let source := if source.head? == some '.' then absFromUnit unitPath source else source
  if source.head? == some '/' then .ok source
  else if endsWith source (s ".volume") || (checkImage && endsWith source (s ".image")) then
    match E.info source with
    | none => .error (.sourceNotFound source)
    | some i => .ok i.resourceName
  else .ok source

theorem handleStorageSource_along (E : Env) (unitPath : Str) (svc : SUnit) (source : Str) (ci : Bool) :
    Along svc (handleStorageSource E unitPath svc source ci) (storageSourceName E unitPath source ci) := by
  unfold handleStorageSource storageSourceName
  refine .ite (fun _ => .ok _ (.addS _ _ _ (.refl _))) fun _ => .ite (fun _ => ?_) fun _ => .same _
  simp only
  cases E.info _ with
  | none => exact .error _ rfl
  | some i => exact .ok _ (.dependsOn _)

def volumeArgStep (E : Env) (unitPath : Str) (acc : List Str) (volume : Str) : R (List Str) :=
  let parts := splitN3 volume
  if (volSource parts).isEmpty then .ok (acc ++ [s "-v", volDest parts])
  else match storageSourceName E unitPath (volSource parts) false with
    | .error e => .error e
    | .ok r =>
      if r.isEmpty then .ok (acc ++ [s "-v", volDest parts])
      else .ok (acc ++ [s "-v", r ++ ':' :: volDest parts ++ volOptions parts])

theorem volumeStep_along (E : Env) (unitPath : Str) (a : List Str) (sv : SUnit) (v : Str) :
    Along sv (volumeStep E unitPath (a, sv) v) (volumeArgStep E unitPath a v) := by
  unfold volumeStep volumeArgStep
  refine .ite (fun _ => .same _) fun _ => ?_
  have h := handleStorageSource_along E unitPath sv (volSource (splitN3 v)) false
  simp only
  generalize handleStorageSource E unitPath sv (volSource (splitN3 v)) false = x,
    storageSourceName E unitPath (volSource (splitN3 v)) false = y at h
  cases h with
  | error e he => exact .error e he
  | ok r hb => exact .ite (fun _ => .ok _ hb) fun _ => .ok _ hb

/-- the `-v` arguments: a function of the name table, the unit's path and its `Volume=` values -/
def volumeArgs (E : Env) (unitPath : Str) (u : SUnit) (sec : Str) : R (List Str) :=
  (lookupAll u sec (s "Volume")).foldlM (volumeArgStep E unitPath) []

theorem handleVolumes_along (E : Env) (unitPath : Str) (u : SUnit) (sec : Str) (svc : SUnit) :
    Along svc (handleVolumes E unitPath u sec svc) (volumeArgs E unitPath u sec) :=
  Along.foldlM (volumeStep_along E unitPath) _ [] svc

theorem handleVolumes_args (E : Env) (unitPath : Str) (u : SUnit) (sec : Str) (svc : SUnit) (r : List Str × SUnit)
    (h : handleVolumes E unitPath u sec svc = .ok r) : volumeArgs E unitPath u sec = .ok r.1 :=
  (handleVolumes_along E unitPath u sec svc).args h

/-- blocks of a fallible argument function: its value, nothing when it fails (then there is no command at all) -/
def blockOf (r : R (List Str)) : List Str := match r with | .ok l => l | .error _ => []
theorem blockOf_ok {r : R (List Str)} {l : List Str} (h : r = .ok l) : blockOf r = l := h ▸ rfl

def segNetworks (E : Env) (sec : Str) : Seg := ⟨[s "Network"], fun u => blockOf (networkArgs E u sec)⟩
def segVolumes (E : Env) (path sec : Str) : Seg := ⟨[s "Volume"], fun u => blockOf (volumeArgs E path u sec)⟩

@[seg_local] theorem segNetworks_local (E : Env) (sec : Str) : (segNetworks E sec).Local sec :=
  .one fun h => by simp only [networkArgs, lookupAll_congr h]
@[seg_local] theorem segVolumes_local (E : Env) (path sec : Str) : (segVolumes E path sec).Local sec :=
  .one fun h => by simp only [volumeArgs, lookupAll_congr h]


/-! ### the user-namespace options: one block, a function of nine keys -/
def mapKeys : List Str :=
  [s "UserNS", s "UIDMap", s "GIDMap", s "SubUIDMap", s "SubGIDMap", s "RemapUid", s "RemapGid", s "RemapUsers", s "RemapUidSize"]

theorem handleUserMappings_congr (u u' : SUnit) (sec : Str) (sm : Bool)
    (h : ∀ k ∈ mapKeys, assignments u sec k = assignments u' sec k) : handleUserMappings u sec sm = handleUserMappings u' sec sm := by
  simp only [mapKeys, List.forall_mem_cons] at h
  obtain ⟨h1, h2, h3, h4, h5, h6, h7, h8, h9, -⟩ := h
  unfold handleUserMappings handleUserRemap
  simp only [lookup_congr h1, lookupAllStrv_congr h2, lookupAllStrv_congr h3, lookup_congr h4, lookup_congr h5, lookup_congr h6,
    lookupAllStrv_congr h6, lookup_congr h7, lookupAllStrv_congr h7, lookup_congr h8, lookup_congr h9]

def segMaps (sec : Str) (sm : Bool) : Seg := ⟨mapKeys, fun u => blockOf (handleUserMappings u sec sm)⟩
@[seg_local] theorem segMaps_local (sec : Str) (sm : Bool) : (segMaps sec sm).Local sec :=
  fun u u' h => by simp only [segMaps, handleUserMappings_congr u u' sec sm h]

/-! ### .pod (the `pod create` command, ExecStartPre) -/
def podSegs (E : Env) (path : Str) : List Seg :=
  let sec := s "Pod"
  [segConst [E.podman]]
    ++ Gen.tbl_get_base_podman_command_inline_lookup_and_add_all_strings.map (segAll sec)
    ++ [segArgs sec "GlobalArgs",
        segConst [s "pod", s "create", s "--infra-conmon-pidfile=%t/%N.pid", s "--pod-id-file=%t/%N.pod-id", s "--exit-policy=stop", s "--replace"],
        segMaps sec true]
    ++ Gen.tbl_handle_publish_ports_inline_lookup_and_add_all_strings.map (segAll sec)
    ++ [segNetworks E sec]
    ++ Gen.tbl_from_pod_unit_string_keys.map (segString sec)
    ++ Gen.tbl_from_pod_unit_all_string_keys.map (segAll sec)
    ++ [segVolumes E path sec,
        segMulti [s "PodName"] (fun u => [s "--infra-name", podNameOf path u ++ s "-infra", s "--name", podNameOf path u]),
        segArgs sec "PodmanArgs"]

theorem podSegs_local (E : Env) (path : Str) : ∀ g ∈ podSegs E path, g.Local (s "Pod") := by
  simp only [podSegs, seg_local]
  exact fun u u' h => by simp only [podNameOf, lookup_congr h]

/-- the right-hand side is the vector `fromPod` hands to `addRawExec … "ExecStartPre"`, with the blocks of the projections where
    the converter has what its handlers returned -/
theorem podCmd_segs (E : Env) (path : Str) (u : SUnit) : cmdOf (podSegs E path) u =
    baseCmd E u (s "Pod") ++ [s "pod", s "create", s "--infra-conmon-pidfile=%t/%N.pid", s "--pod-id-file=%t/%N.pod-id",
        s "--exit-policy=stop", s "--replace"]
      ++ blockOf (handleUserMappings u (s "Pod") true) ++ publishPorts u (s "Pod") ++ blockOf (networkArgs E u (s "Pod"))
      ++ (addString u (s "Pod") Gen.tbl_from_pod_unit_string_keys ++ addAllStrings u (s "Pod") Gen.tbl_from_pod_unit_all_string_keys)
      ++ blockOf (volumeArgs E path u (s "Pod")) ++ [s "--infra-name", podNameOf path u ++ s "-infra", s "--name", podNameOf path u]
      ++ podmanArgs u (s "Pod") := by
  unfold podSegs
  -- `↓ List.append_assoc`, here and below: see `networkCmd_segs` (QM/ConvDelta.lean)
  simp only [↓ List.append_assoc, List.cons_append, List.nil_append, List.append_nil, cmdOf_append, cmdOf_cons, cmdOf_nil,
    cmdOf_string, cmdOf_all, baseCmd, moduleArgs, addAllStrings0, addAllStrings, podmanArgs, publishPorts, segConst, segArgs, segMulti,
    segMaps, segNetworks, segVolumes]

theorem fromPod_segs (E : Env) (path : Str) (u svc : SUnit) (cts : List Str) (h : fromPod E path u cts = .ok svc) :
    HasExec svc "ExecStartPre" (cmdOf (podSegs E path) u) := by
  rw [podCmd_segs]
  unfold fromPod at h
  simp only [bind_ok] at h
  -- in the order of the `do` block: the two key checks (a `()` and its equation each), then a name and an equation per bind
  obtain ⟨_, _, _, _, s1, _, s2, _, s3, _, maps, hmaps, x5, hnets, x6, hvols, s7, hexec, hfin⟩ := h
  cases hfin
  rw [blockOf_ok hmaps, blockOf_ok (handleNetworks_args _ _ _ _ _ hnets), blockOf_ok (handleVolumes_args _ _ _ _ _ _ hvols)]
  exact (HasExec.of_addRawExec hexec).of_built (M := addPairs) (.addS _ _ _ <| .addS _ _ _ <| .addS _ _ _ <| .addS _ _ _ <| .refl _)

theorem C02_pod_shape (E : Env) (path : Str) (u svc : SUnit) (cts : List Str) (h : fromPod E path u cts = .ok svc) :
    ∃ maps nets vols, HasExec svc "ExecStartPre"
      (baseCmd E u (s "Pod") ++ [s "pod", s "create", s "--infra-conmon-pidfile=%t/%N.pid", s "--pod-id-file=%t/%N.pod-id",
          s "--exit-policy=stop", s "--replace"]
        ++ maps ++ publishPorts u (s "Pod") ++ nets
        ++ (addString u (s "Pod") Gen.tbl_from_pod_unit_string_keys ++ addAllStrings u (s "Pod") Gen.tbl_from_pod_unit_all_string_keys)
        ++ vols ++ [s "--infra-name", podNameOf path u ++ s "-infra", s "--name", podNameOf path u] ++ podmanArgs u (s "Pod")) :=
  ⟨_, _, _, podCmd_segs E path u ▸ fromPod_segs E path u svc cts h⟩

/-! ### .kube -/
def kubeSegs (E : Env) (path : Str) : List Seg :=
  let sec := s "Kube"
  [segConst [E.podman]]
    ++ Gen.tbl_get_base_podman_command_inline_lookup_and_add_all_strings.map (segAll sec)
    ++ [segArgs sec "GlobalArgs", segConst [s "kube", s "play", s "--replace", s "--service-container=true"],
        segLast sec "ExitCodePropagation" (fun o => match o with
          | some e => if e.isEmpty then [] else [s "--service-exit-code-propagation=" ++ e] | none => []),
        segLast sec "LogDriver" (fun o => match o with | some v => if v.isEmpty then [] else [s "--log-driver", v] | none => []),
        segStrv sec "LogOpt" (fun l => l.flatMap fun o => [s "--log-opt", o]),
        segMaps sec false, segNetworks E sec,
        segStrv sec "AutoUpdate" (fun l => l.flatMap fun upd =>
          match splitOnce '/' upd with
          | some (a, t) => [s "--annotation", s "io.containers.autoupdate" ++ ('/' :: a) ++ '=' :: t]
          | none => [s "--annotation", s "io.containers.autoupdate=" ++ upd]),
        segStrv sec "ConfigMap" (fun l => l.flatMap fun c => [s "--configmap", absFromUnit path c])]
    ++ Gen.tbl_handle_publish_ports_inline_lookup_and_add_all_strings.map (segAll sec)
    ++ [segArgs sec "PodmanArgs", segLast sec "Yaml" (fun o => [absFromUnit path (o.getD [])])]

theorem kubeSegs_local (E : Env) (path : Str) : ∀ g ∈ kubeSegs E path, g.Local (s "Kube") := by
  simp only [kubeSegs, seg_local]

theorem kubeCmd_segs (E : Env) (path : Str) (u : SUnit) : cmdOf (kubeSegs E path) u =
    baseCmd E u (s "Kube") ++ [s "kube", s "play", s "--replace", s "--service-container=true"]
      ++ (match lookup u (s "Kube") (s "ExitCodePropagation") with
          | some e => if e.isEmpty then [] else [s "--service-exit-code-propagation=" ++ e] | none => [])
      ++ logDriver u (s "Kube") ++ logOpt u (s "Kube")
      ++ blockOf (handleUserMappings u (s "Kube") false) ++ blockOf (networkArgs E u (s "Kube")) ++ kubeAutoUpdate u
      ++ kubeConfigMaps path u ++ publishPorts u (s "Kube") ++ podmanArgs u (s "Kube")
      ++ [absFromUnit path ((lookup u (s "Kube") (s "Yaml")).getD [])] := by
  unfold kubeSegs
  simp only [↓ List.append_assoc, List.cons_append, List.nil_append, List.append_nil, cmdOf_append, cmdOf_cons, cmdOf_nil,
    cmdOf_all, baseCmd, moduleArgs, addAllStrings0, addAllStrings, podmanArgs, publishPorts, kubeAutoUpdate, kubeConfigMaps, logDriver,
    logOpt, segConst, segArgs, segMaps, segLast, segStrv, segNetworks]
  -- the two sides now differ only in the auxiliary matchers of their `match`es (every definition has its own), which `rfl` unfolds
  rfl

theorem fromKube_segs (E : Env) (path : Str) (u svc : SUnit) (h : fromKube E path u = .ok svc) :
    HasExec svc "ExecStart" (cmdOf (kubeSegs E path) u) := by
  rw [kubeCmd_segs]
  unfold fromKube at h
  simp only [bind_ok, guard_ok] at h
  -- the two key checks, the guard on Yaml= (`-`), `killMode` (`s1`), the `match` on Type= (`s2`), then a name per bind
  obtain ⟨_, _, _, _, -, s1, _, s2, _, maps, hmaps, x4, hnets, s5, hexec, s6, hstop, x7, hwd, hfin⟩ := h
  cases hfin
  rw [blockOf_ok hmaps, blockOf_ok (handleNetworks_args _ _ _ _ _ hnets)]
  exact (HasExec.of_addRawExec hexec).of_built (.after ((handleSetWorkingDirectory_along ..).built hwd) <| .addRawExec hstop <| .refl _)

/-! ### `handle_image_source` (a .volume's and a .container's); .volume -/
def imageSourceName (E : Env) (name : Str) : R Str :=
  if endsWith name (s ".build") || endsWith name (s ".image") then
    match E.info name with
    | none => .error (.imageNotFound name)
    | some i => .ok i.resourceName
  else .ok name

theorem handleImageSource_along (E : Env) (name : Str) (svc : SUnit) :
    Along svc (handleImageSource E name svc) (imageSourceName E name) := by
  unfold handleImageSource imageSourceName
  refine .ite (fun _ => ?_) fun _ => .same _
  cases E.info name with
  | none => exact .error _ rfl
  | some i => exact .ok _ (.dependsOn _)

def volumeOptArgs (E : Env) (u : SUnit) : R (List Str) := fstR (volumeOpts E u [])

/-- `volumeOpts` has no projection written out: there is a plain run along which it ends, whatever the service -/
theorem volumeOpts_along (E : Env) (u : SUnit) (svc : SUnit) : Along svc (volumeOpts E u svc) (volumeOptArgs E u) := by
  -- `y`: the same `if` tree without the service, for the most part left to unification.  It is chosen before `svc`: so the `y` of
  -- the empty service, which is `volumeOptArgs` by `Along.fst`, is that of every service
  have h : ∃ y, ∀ svc, Along svc (volumeOpts E u svc) y := by
    unfold volumeOpts
    extract_lets sec driver cmd1
    by_cases hd : (driver == some (s "image")) = true
    · simp only [↓ if_pos hd]
      cases lookup u sec (s "Image") with
      | none => exact ⟨_, fun _ => .error _ rfl⟩
      | some img =>
        exact ⟨imageSourceName E img >>= fun n => pure (_ ++ [s "--opt", s "image=" ++ n]),
          fun svc => (handleImageSource_along E img svc).bind fun _ _ => .same _⟩
    · simp only [↓ if_neg hd]
      exact ⟨_, fun _ => .ite (fun _ => .throw_bind _ rfl _) fun _ => .ite (fun _ => .throw_bind _ rfl _) fun _ => .same _⟩
  obtain ⟨y, hy⟩ := h
  rw [volumeOptArgs, (hy []).fst]
  exact hy svc

theorem volumeOpts_args (E : Env) (u svc : SUnit) (r : List Str × SUnit) (h : volumeOpts E u svc = .ok r) :
    volumeOptArgs E u = .ok r.1 :=
  (volumeOpts_along E u svc).args h

def volOptKeys : List Str := [s "Driver", s "Image", s "User", s "Group", s "Copy", s "Device", s "Type", s "Options"]

theorem volumeOpts_congr (E : Env) (u u' : SUnit) (svc : SUnit)
    (h : ∀ k ∈ volOptKeys, assignments u (s "Volume") k = assignments u' (s "Volume") k) : volumeOpts E u svc = volumeOpts E u' svc := by
  simp only [volOptKeys, List.forall_mem_cons] at h
  obtain ⟨h1, h2, h3, h4, h5, h6, h7, h8, -⟩ := h
  unfold volumeOpts
  simp only [lookup_congr h1, lookup_congr h2, hasKey_congr h3, lookup_congr h3, hasKey_congr h4, lookup_congr h4, lookupBool_congr h5,
    lookup_congr h6, lookup_congr h7, lookup_congr h8]

def segVolOpts (E : Env) : Seg := ⟨volOptKeys, fun u => blockOf (volumeOptArgs E u)⟩
@[seg_local] theorem segVolOpts_local (E : Env) : (segVolOpts E).Local (s "Volume") :=
  fun u u' h => by simp only [segVolOpts, volumeOptArgs, volumeOpts_congr E u u' [] h]

def volumeNameOf (path : Str) (u : SUnit) : Str :=
  if ((lookup u (s "Volume") (s "VolumeName")).getD []).isEmpty then s "systemd-" ++ fileStem (fileName path)
  else (lookup u (s "Volume") (s "VolumeName")).getD []

def volumeSegs (E : Env) (path : Str) : List Seg :=
  let sec := s "Volume"
  [segConst [E.podman]]
    ++ Gen.tbl_get_base_podman_command_inline_lookup_and_add_all_strings.map (segAll sec)
    ++ [segArgs sec "GlobalArgs", segConst [s "volume", s "create", s "--ignore"], segVolOpts E,
        segKeyVal sec "--label" "Label", segArgs sec "PodmanArgs", segMulti [s "VolumeName"] (fun u => [volumeNameOf path u])]

theorem volumeSegs_local (E : Env) (path : Str) : ∀ g ∈ volumeSegs E path, g.Local (s "Volume") := by
  simp only [volumeSegs, seg_local]
  exact fun u u' h => by simp only [volumeNameOf, lookup_congr h]

theorem volumeCmd_segs (E : Env) (path : Str) (u : SUnit) : cmdOf (volumeSegs E path) u =
    baseCmd E u (s "Volume") ++ [s "volume", s "create", s "--ignore"] ++ blockOf (volumeOptArgs E u)
      ++ addKeys "--label" (lookupAllKeyVal u (s "Volume") (s "Label")) ++ podmanArgs u (s "Volume") ++ [volumeNameOf path u] := by
  unfold volumeSegs
  simp only [↓ List.append_assoc, List.cons_append, List.nil_append, List.append_nil, cmdOf_append, cmdOf_cons, cmdOf_nil,
    cmdOf_all, baseCmd, moduleArgs, addAllStrings0, addAllStrings, podmanArgs, segConst, segArgs, segKeyVal, segMulti, segVolOpts]

theorem fromVolume_segs (E : Env) (path : Str) (u svc : SUnit) (n : Str) (h : fromVolume E path u = .ok (svc, n)) :
    HasExec svc "ExecStart" (cmdOf (volumeSegs E path) u) ∧ n = volumeNameOf path u := by
  rw [volumeCmd_segs]
  unfold fromVolume at h
  simp only [bind_ok] at h
  -- the two key checks, then `volumeOpts` (`x`) and the `addRawExec`
  obtain ⟨_, _, _, _, x, hx, svc1, hexec, hfin⟩ := h
  obtain ⟨rfl, rfl⟩ := Prod.mk.inj (Except.ok.inj hfin)
  rw [blockOf_ok (volumeOpts_args E u _ x hx)]
  exact ⟨(HasExec.of_addRawExec hexec).of_built (built_oneShot (M := []) _ _), rfl⟩

theorem C02_volume_shape (E : Env) (path : Str) (u svc : SUnit) (n : Str) (h : fromVolume E path u = .ok (svc, n)) :
    ∃ cmd2, HasExec svc "ExecStart"
      (cmd2 ++ addKeys "--label" (lookupAllKeyVal u (s "Volume") (s "Label")) ++ podmanArgs u (s "Volume") ++ [n]) := by
  obtain ⟨hx, rfl⟩ := fromVolume_segs E path u svc _ h
  exact ⟨_, volumeCmd_segs E path u ▸ hx⟩


/-! ### Mount= -/
def mountTokArgStep (E : Env) (unitPath : Str) (acc : List Str) (t : Str) : R (List Str) :=
  if startsWith t (s "source=") || startsWith t (s "src=") then
    match splitOnce '=' t with
    | some (_, v) =>
      match storageSourceName E unitPath v true with
      | .error e => .error e
      | .ok r => .ok (acc ++ [s "source=" ++ r])
    | none => .ok acc
  else .ok (acc ++ [t])

theorem mountTokStep_along (E : Env) (unitPath : Str) (a : List Str) (sv : SUnit) (t : Str) :
    Along sv (mountTokStep E unitPath (a, sv) t) (mountTokArgStep E unitPath a t) := by
  unfold mountTokStep mountTokArgStep
  refine .ite (fun _ => ?_) fun _ => .same _
  cases splitOnce '=' t with
  | none => exact .same _
  | some p =>
    have h := handleStorageSource_along E unitPath sv p.2 true
    simp only
    generalize handleStorageSource E unitPath sv p.2 true = x, storageSourceName E unitPath p.2 true = y at h
    cases h with
    | error e he => exact .error e he
    | ok r hb => exact .ok _ hb

def resolveMountArg (E : Env) (unitPath : Str) (m : Str) : Option (R Str) :=
  match findMountType m with
  | none => none
  | some (.error e) => some (.error e)
  | some (.ok (ty, toks)) =>
    if !(ty == s "volume" || ty == s "bind" || ty == s "glob" || ty == s "image") then some (.ok m)
    else some (match toks.foldlM (mountTokArgStep E unitPath) [s "type=" ++ ty] with
      | .error e => .error e
      | .ok r => .ok (commaJoin r))

def mountsArgStep (E : Env) (unitPath : Str) (acc : List Str) (m : Str) : R (List Str) :=
  match resolveMountArg E unitPath m with
  | some (.ok r) => .ok (acc ++ [s "--mount", r])
  | some (.error e) => .error e
  | none => .error .badValue

theorem findMountType_err {m : Str} {e : Err} (h : findMountType m = some (.error e)) : e = .mountFormat m := by
  unfold findMountType at h
  split at h
  · cases h
  · split at h
    · cases h; rfl
    · extract_lets fields at h
      split at h
      split at h <;> cases h
      rfl

theorem mountsStep_along (E : Env) (unitPath : Str) (a : List Str) (sv : SUnit) (m : Str) :
    Along sv (mountsStep E unitPath (a, sv) m) (mountsArgStep E unitPath a m) := by
  unfold mountsStep mountsArgStep resolveMount resolveMountArg
  cases hf : findMountType m with
  | none => exact .error _ rfl
  | some r =>
    cases r with
    | error e => exact .error e (findMountType_err hf ▸ rfl)
    | ok p =>
      by_cases hty : (!(p.1 == s "volume" || p.1 == s "bind" || p.1 == s "glob" || p.1 == s "image")) = true
      · simp only [hty, if_true]; exact .same _
      · simp only [hty]
        have h := Along.foldlM (mountTokStep_along E unitPath) p.2 [s "type=" ++ p.1] sv
        generalize List.foldlM (mountTokStep E unitPath) ([s "type=" ++ p.1], sv) p.2 = x,
          List.foldlM (mountTokArgStep E unitPath) [s "type=" ++ p.1] p.2 = y at h
        cases h with
        | error e he => exact .error e he
        | ok r hb => exact .ok _ hb

/-- the `--mount` arguments: a function of the name table, the unit's path and the words of its `Mount=` values -/
def mountArgs (E : Env) (unitPath : Str) (u : SUnit) (sec : Str) : R (List Str) :=
  (lookupAllArgs u sec (s "Mount")).foldlM (mountsArgStep E unitPath) []

theorem mounts_along (E : Env) (unitPath : Str) (u : SUnit) (sec : Str) (svc : SUnit) :
    Along svc ((lookupAllArgs u sec (s "Mount")).foldlM (mountsStep E unitPath) ([], svc)) (mountArgs E unitPath u sec) :=
  Along.foldlM (mountsStep_along E unitPath) _ [] svc

theorem mounts_args (E : Env) (unitPath : Str) (u : SUnit) (sec : Str) (svc : SUnit) (r : List Str × SUnit)
    (h : (lookupAllArgs u sec (s "Mount")).foldlM (mountsStep E unitPath) ([], svc) = .ok r) : mountArgs E unitPath u sec = .ok r.1 :=
  (mounts_along E unitPath u sec svc).args h

def segMounts (E : Env) (path sec : Str) : Seg := ⟨[s "Mount"], fun u => blockOf (mountArgs E path u sec)⟩
@[seg_local] theorem segMounts_local (E : Env) (path sec : Str) : (segMounts E path sec).Local sec :=
  .one fun h => by simp only [mountArgs, lookupAllArgs_congr h]

/-! ### Pod= -/
def podArgsOf (E : Env) (u : SUnit) (sec : Str) : R (List Str) :=
  match lookup u sec (s "Pod") with
  | none => .ok []
  | some pod =>
    if pod.isEmpty then .ok []
    else if !endsWith pod (s ".pod") then .error (.invalidPod pod)
    else match E.info pod with
      | none => .error (.podNotFound pod)
      | some i => .ok [s "--pod-id-file", s "%t/" ++ i.serviceName ++ s ".pod-id"]

/-- `handle_pod` returns a third component (the link to record): its three facts are read off one case analysis -/
theorem handlePod_ok {E : Env} {u : SUnit} {sec : Str} {svc : SUnit} {own : Str} {r : List Str × SUnit × Option (Str × Str)}
    (h : handlePod E u sec svc own = .ok r) :
    podArgsOf E u sec = .ok r.1 ∧ Built addPairs svc r.2.1 ∧ ∀ p c, r.2.2 = some (p, c) → endsWith p (s ".pod") = true := by
  unfold handlePod at h
  unfold podArgsOf
  generalize lookup u sec (s "Pod") = o at h ⊢
  cases o with
  | none => cases h; exact ⟨rfl, .refl _, nofun⟩
  | some pod =>
    simp only at h ⊢
    rcases ok_of_ite h with ⟨hc, h⟩ | ⟨hc, h⟩
    · cases h; exact ⟨if_pos hc, .refl _, nofun⟩
    · rcases ok_of_ite h with ⟨_, h⟩ | ⟨hp, h⟩
      · cases h
      · rw [if_neg hc, if_neg hp]
        generalize E.info pod = o at h ⊢
        cases o with
        | none => cases h
        | some i =>
          cases h
          refine ⟨rfl, .addS _ _ _ <| .addS _ _ _ <| .refl _, fun p c hl => ?_⟩
          split at hl
          · cases hl; simpa using hp
          · cases hl

theorem handlePod_args (E : Env) (u : SUnit) (sec : Str) (svc : SUnit) (own : Str) (r : List Str × SUnit × Option (Str × Str))
    (h : handlePod E u sec svc own = .ok r) : podArgsOf E u sec = .ok r.1 :=
  (handlePod_ok h).1

def segPod (E : Env) (sec : Str) : Seg := ⟨[s "Pod"], fun u => blockOf (podArgsOf E u sec)⟩
@[seg_local] theorem segPod_local (E : Env) (sec : Str) : (segPod E sec).Local sec :=
  .one fun h => by simp only [podArgsOf, lookup_congr h]

/-! ### .container -/
def segHealth (sec : Str) (r : Str × Str) : Seg :=
  ⟨[r.1], fun u => match lookup u sec r.1 with
    | some v => if v.isEmpty then [] else [s "--health-" ++ r.2, v]
    | none => []⟩
@[seg_local] theorem segHealth_local (sec : Str) (r : Str × Str) : (segHealth sec r).Local sec :=
  .one fun h => by simp only [lookup_congr h]
theorem cmdOf_health (sec : Str) (u : SUnit) : cmdOf (Gen.tbl_handle_health_key_arg_map.map (segHealth sec)) u = healthArgs u sec := by
  simp [cmdOf, healthArgs, List.flatMap_map, segHealth]
  rfl

def exposeArgs (u : SUnit) (sec : Str) : R (List Str) :=
  (lookupAll u sec (s "ExposeHostPort")).foldlM (fun (acc : List Str) p =>
    let p := trim p
    if Port.isPortRange p then pure (acc ++ [s "--expose", p]) else throw (Err.invalidPort p)) []

/-- the name of the image as podman knows it: the value of `Image=`, or what the .image / .build unit it names creates -/
def imageNameOf (E : Env) (u : SUnit) (sec : Str) : Str :=
  let img := (lookup u sec (s "Image")).getD []
  if img.isEmpty then img else blockName (imageSourceName E img)
where blockName (r : R Str) : Str := match r with | .ok n => n | .error _ => []

def notifyBlock (svcType : Option Str) (sec : Str) (u : SUnit) : List Str :=
  match svcType with
  | some t => if t == s "oneshot" then [] else [sdnotifyArg u sec, s "-d"]
  | none => [sdnotifyArg u sec, s "-d"]

def execBlock (sec : Str) (u : SUnit) : List Str :=
  match lookupLastValue u sec (s "Exec") with | some raw => splitArgs raw | none => []

def containerSegs (E : Env) (path : Str) (svcType : Option Str) : List Seg :=
  let sec := s "Container"
  [segConst [E.podman]]
    ++ Gen.tbl_get_base_podman_command_inline_lookup_and_add_all_strings.map (segAll sec)
    ++ [segArgs sec "GlobalArgs", segConst [s "run"],
        segMulti [s "ContainerName"] (fun u => [s "--name", containerName (fileName path) u]),
        segConst [s "--cidfile=%t/%N.cid", s "--replace", s "--rm"],
        segMulti [s "LogDriver"] (fun u => logDriver u sec), segMulti [s "LogOpt"] (fun u => logOpt u sec),
        segLast sec "CgroupsMode" (fun o => [s "--cgroups", match o with | some c => if c.isEmpty then s "split" else c | none => s "split"])]
    ++ Gen.tbl_from_container_unit_string_keys.map (segString sec)
    ++ Gen.tbl_from_container_unit_all_string_keys.map (segAll sec)
    ++ Gen.tbl_from_container_unit_bool_keys.map (segBool sec)
    ++ [segNetworks E sec, segMulti [s "Notify"] (notifyBlock svcType sec),
        segBoolOn sec "NoNewPrivileges" [s "--security-opt=no-new-privileges"],
        segBoolOn sec "SecurityLabelDisable" [s "--security-opt", s "label=disable"],
        segBoolOn sec "SecurityLabelNested" [s "--security-opt", s "label=nested"],
        segLast sec "SecurityLabelType" (fun o => match o with | some v => if v.isEmpty then [] else [s "--security-opt", s "label=type:" ++ v] | none => []),
        segLast sec "SecurityLabelFileType" (fun o => match o with | some v => if v.isEmpty then [] else [s "--security-opt", s "label=filetype:" ++ v] | none => []),
        segLast sec "SecurityLabelLevel" (fun o => match o with | some v => if v.isEmpty then [] else [s "--security-opt", s "label=level:" ++ v] | none => []),
        segStrv sec "AddDevice" (fun l => l.flatMap fun d =>
          match d with
          | '-' :: d' =>
            let p := match splitOnce ':' d' with | some (a, _) => a | none => d'
            if E.pathExists p then [s "--device", d'] else []
          | _ => [s "--device", d]),
        segLast sec "SeccompProfile" (fun o => match o with | some v => if v.isEmpty then [] else [s "--security-opt", s "seccomp=" ++ v] | none => []),
        segStrv sec "DropCapability" (fun l => l.flatMap fun c => [s "--cap-drop", lower c]),
        segStrv sec "AddCapability" (fun l => l.flatMap fun c => [s "--cap-add", lower c]),
        segStrv sec "Sysctl" (fun l => l.flatMap fun c => [s "--sysctl", c]),
        segMulti [s "ReadOnly", s "VolatileTmp"] (fun u =>
          (match lookupBool u sec (s "ReadOnly") with | some true => [s "--read-only"] | some false => [s "--read-only=false"] | none => [])
          ++ (if (lookupBool u sec (s "VolatileTmp")).getD false && !((lookupBool u sec (s "ReadOnly")).getD false)
              then [s "--tmpfs", s "/tmp:rw,size=512M,mode=1777"] else [])),
        segMulti [s "User", s "Group"] (fun u => blockOf (handleUser u sec)),
        segMaps sec true, segVolumes E path sec,
        segMulti [s "AutoUpdate"] (fun u => containerAutoUpdate u sec),
        segMulti [s "ExposeHostPort"] (fun u => blockOf (exposeArgs u sec))]
    ++ Gen.tbl_handle_publish_ports_inline_lookup_and_add_all_strings.map (segAll sec)
    ++ [segKeyVal sec "--env" "Environment", segKeyVal sec "--label" "Label", segKeyVal sec "--annotation" "Annotation",
        segArgsWith sec "Mask" (fun l => l.flatMap fun m => [s "--security-opt", s "mask=" ++ m]),
        segArgsWith sec "Unmask" (fun l => l.flatMap fun m => [s "--security-opt", s "unmask=" ++ m]),
        segArgsWith sec "EnvironmentFile" (fun l => l.flatMap fun f => [s "--env-file", absFromUnit path f]),
        segArgsWith sec "Secret" (fun l => l.flatMap fun x => [s "--secret", x]),
        segMounts E path sec]
    ++ Gen.tbl_handle_health_key_arg_map.map (segHealth sec)
    ++ [segPod E sec, segArgs sec "PodmanArgs",
        segMulti [s "Image", s "Rootfs"] (fun u =>
          if !(imageNameOf E u sec).isEmpty then [imageNameOf E u sec] else [s "--rootfs", (lookup u sec (s "Rootfs")).getD []]),
        segMulti [s "Exec"] (execBlock sec)]


/-- each segment is local by its kind; the ten blocks that are functions of the unit by their own definitions, in command order -/
theorem containerSegs_local (E : Env) (path : Str) (svcType : Option Str) :
    ∀ g ∈ containerSegs E path svcType, g.Local (s "Container") := by
  simp only [containerSegs, seg_local]
  refine ⟨?_, ?_, ?_, ?_, ?_, ?_, ?_, ?_, ?_, ?_⟩ <;> intro u u' h
  · simp only [containerName, lookup_congr h]
  · simp only [logDriver, lookup_congr h]
  · simp only [logOpt, lookupAllStrv_congr h]
  · simp only [notifyBlock, sdnotifyArg, lookup_congr h, lookupBool_congr h]
  · rw [lookupBool_congr h.1, lookupBool_congr h.2]
  · simp only [handleUser, lookup_congr h.1, lookup_congr h.2]
  · simp only [containerAutoUpdate, lookup_congr h]
  · simp only [exposeArgs, lookupAll_congr h]
  · have e : imageNameOf E u (s "Container") = imageNameOf E u' (s "Container") := by simp only [imageNameOf, lookup_congr h.1]
    rw [e, lookup_congr h.2]
  · simp only [execBlock, lookupLastValue_congr h]


theorem typeAndNotify_block (u : SUnit) (sec : Str) (cmd : List Str) (svc : SUnit) (r : List Str × SUnit)
    (h : typeAndNotify u sec cmd svc = .ok r) :
    r.1 = cmd ++ notifyBlock (lookup u (s "Service") (s "Type")) sec u ∧ Built addPairs svc r.2 := by
  have notify : Built addPairs svc (setS (setS svc "Service" "Type" (s "notify")) "Service" "NotifyAccess" (s "all")) :=
    .setS _ _ _ <| .setS _ _ _ <| .refl _
  unfold typeAndNotify at h
  unfold notifyBlock
  generalize lookup u (s "Service") (s "Type") = o at h ⊢
  cases o with
  | none => cases h; exact ⟨rfl, notify⟩
  | some t =>
    simp only at h ⊢
    rcases ok_of_ite h with ⟨ht, h⟩ | ⟨ht, h⟩
    · cases h; rw [if_pos ht, List.append_nil]; exact ⟨rfl, .refl _⟩
    · rw [if_neg ht]
      rcases ok_of_ite h with ⟨_, h⟩ | ⟨_, h⟩ <;> cases h
      exact ⟨rfl, notify⟩

theorem image_name (E : Env) (u : SUnit) (sec : Str) (svc : SUnit) (x : Str × SUnit)
    (h : (if !((lookup u sec (s "Image")).getD []).isEmpty then handleImageSource E ((lookup u sec (s "Image")).getD []) svc
          else (pure ((lookup u sec (s "Image")).getD [], svc) : R (Str × SUnit))) = .ok x) :
    x.1 = imageNameOf E u sec ∧ Built addPairs svc x.2 := by
  unfold imageNameOf
  rcases ok_of_ite h with ⟨hc, h⟩ | ⟨hc, h⟩
  · simp only [Bool.not_eq_true'] at hc
    simp only [hc, Bool.false_eq_true, if_false, (handleImageSource_along E _ svc).args h]
    exact ⟨rfl, (handleImageSource_along ..).built h⟩
  · simp only [Bool.not_eq_true', Bool.not_eq_false] at hc
    cases h
    simp only [hc, if_true, true_and]
    exact .refl _

theorem containerCmd_segs (E : Env) (path : Str) (u : SUnit) (svcType : Option Str) :
    cmdOf (containerSegs E path svcType) u =
      containerHead E path u (s "Container")
        ++ (blockOf (networkArgs E u (s "Container")) ++ notifyBlock svcType (s "Container") u ++ containerSecurity E u (s "Container")
          ++ blockOf (handleUser u (s "Container")) ++ blockOf (handleUserMappings u (s "Container") true)
          ++ blockOf (volumeArgs E path u (s "Container")) ++ containerAutoUpdate u (s "Container")
          ++ blockOf (exposeArgs u (s "Container")))
        ++ containerMid path u (s "Container") ++ blockOf (mountArgs E path u (s "Container")) ++ healthArgs u (s "Container")
        ++ blockOf (podArgsOf E u (s "Container")) ++ podmanArgs u (s "Container")
        ++ containerTail u (s "Container") (imageNameOf E u (s "Container")) := by
  unfold containerSegs
  simp only [↓ List.append_assoc, List.cons_append, List.nil_append, List.append_nil, cmdOf_append, cmdOf_cons, cmdOf_nil,
    cmdOf_string, cmdOf_bool, cmdOf_all, cmdOf_health, containerHead, containerSecurity, containerMid, containerTail, baseCmd, moduleArgs,
    addAllStrings0, addAllStrings, podmanArgs, publishPorts, segConst, segArgs, segMulti, segMaps, segLast, segStrv, segArgsWith, segKeyVal,
    segBoolOn, segNetworks, segVolumes, segMounts, segPod, execBlock]
  -- as in `kubeCmd_segs`: only the auxiliary matchers differ (the `let`s of `containerSecurity` are gone by now)
  rfl

/-- the segments are those for the unit's own `[Service] Type=`: a oneshot service has no `--sdnotify … -d` -/
theorem fromContainer_segs (E : Env) (path : Str) (u svc : SUnit) (link : Option (Str × Str))
    (h : fromContainer E path u = some (.ok (svc, link))) :
    HasExec svc "ExecStart" (cmdOf (containerSegs E path (lookup u (s "Service") (s "Type"))) u) := by
  rw [containerCmd_segs]
  unfold fromContainer at h
  simp only [Option.ite_none_left_eq_some, Option.some.injEq, bind_ok, guard_ok] at h
  -- in the order of `fromContainer`: every `Mount=` is inside the model (`-`), the unit's own table entry `self` and its lookup,
  -- the two key checks (a `()` and its equation each), the guards on Image= / Rootfs= (`-`, `-`), then a name and an equation per bind
  obtain ⟨-, self, _, _, _, _, _, -, -, img, himg, skm, hkm, sst, hstop, ssp, hstoppost, nets, hnets, cmd, hcmd, usr, husr,
    maps, hmaps, vols, hvols, ports, hports, mnts, hmnts, pod, hpod, sx, hexec, hfin⟩ := h
  cases hfin
  have hx := HasExec.of_addRawExec hexec
  rw [(typeAndNotify_block _ _ _ _ _ hcmd).1, (image_name E u (s "Container") _ img himg).1] at hx
  rw [blockOf_ok (handleNetworks_args _ _ _ _ _ hnets), blockOf_ok husr, blockOf_ok hmaps, blockOf_ok (handleVolumes_args _ _ _ _ _ _ hvols),
    blockOf_ok (mounts_args _ _ _ _ _ _ hmnts), blockOf_ok (handlePod_args _ _ _ _ _ _ hpod), blockOf_ok (r := exposeArgs _ _) hports]
  simpa only [List.append_assoc] using hx

/-- the link a container records goes to a `.pod` unit (what `handle_pod` returns) -/
theorem fromContainer_link (E : Env) (path : Str) (u svc : SUnit) (p c : Str)
    (h : fromContainer E path u = some (.ok (svc, some (p, c)))) : endsWith p (s ".pod") = true := by
  unfold fromContainer at h
  simp only [Option.ite_none_left_eq_some, Option.some.injEq, bind_ok, guard_ok] at h
  -- the slots as in `fromContainer_segs`: Mount= inside the model, `self` and its lookup, the two key checks, the two guards, the binds
  obtain ⟨-, self, _, _, _, _, _, -, -, img, himg, skm, hkm, sst, hstop, ssp, hstoppost, nets, hnets, cmd, hcmd, _, _, _, _,
    vols, hvols, _, _, mnts, hmnts, ⟨a9, s9, l9⟩, hpod, sx, hexec, hfin⟩ := h
  cases hfin
  exact (handlePod_ok hpod).2.2 p c rfl

theorem C02_container_shape (E : Env) (path : Str) (u svc : SUnit) (link : Option (Str × Str))
    (h : fromContainer E path u = some (.ok (svc, link))) :
    ∃ mid1 mounts podArgs image, HasExec svc "ExecStart"
      (containerHead E path u (s "Container") ++ mid1 ++ containerMid path u (s "Container") ++ mounts
        ++ healthArgs u (s "Container") ++ podArgs ++ podmanArgs u (s "Container") ++ containerTail u (s "Container") image) :=
  ⟨_, _, _, _, containerCmd_segs E path u _ ▸ fromContainer_segs E path u svc link h⟩

end Cv
