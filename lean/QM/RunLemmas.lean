import QM.Run
/-! `Cv.process` in closed form (`process_eq`): a run ends before its loop (nothing loaded; no output directory) or is what it
    held before the loop followed by the contributions of the converted units, one after the other.  Every statement about a
    whole run then is a statement about one unit's contribution (`stepEffs`, `stepErrs`). -/
namespace Cv
open MM

def stepEffs (cfg : Cfg) (w : World) (qo : QUnit × Out) : List Eff :=
  match qo.2 with
  | .ok svc =>
    if cfg.dryRun then [Eff.print (svcPathOf cfg qo.1) (Parse.printUnit svc)]
    else if writeOk cfg w qo.1 svc then
      [Eff.write (svcPathOf cfg qo.1) (writtenText svc), Eff.enable (svcFileOf qo.1) (Inst.planLinks (svcFileOf qo.1) svc)]
    else [Eff.writeFailed (svcPathOf cfg qo.1)]
  | _ => []

def stepErrs (cfg : Cfg) (w : World) (qo : QUnit × Out) : List RunErr :=
  match qo.2 with
  | .err e => [RunErr.convert qo.1.path e]
  | .ok svc => if !cfg.dryRun && !writeOk cfg w qo.1 svc then [RunErr.write (svcPathOf cfg qo.1)] else []
  | .outOfModel => []

def Out.isOutOfModel : Out → Bool
  | .outOfModel => true
  | _ => false

theorem emitStep_eq (cfg : Cfg) (w : World) (acc : ProcOut) (qo : QUnit × Out) :
    emitStep cfg w acc qo = { effs := acc.effs ++ stepEffs cfg w qo, errs := acc.errs ++ stepErrs cfg w qo,
                              outOfModel := acc.outOfModel || qo.2.isOutOfModel } := by
  unfold emitStep stepEffs stepErrs
  cases qo.2 with
  | err e => simp [Out.isOutOfModel]
  | outOfModel => simp [Out.isOutOfModel]
  | ok svc =>
    simp only [emitOk, emitWrite]
    cases cfg.dryRun <;> cases writeOk cfg w qo.1 svc <;> simp [Out.isOutOfModel]

theorem loop_eq (cfg : Cfg) (w : World) (l : List (QUnit × Out)) (acc : ProcOut) :
    l.foldl (emitStep cfg w) acc = { effs := acc.effs ++ l.flatMap (stepEffs cfg w), errs := acc.errs ++ l.flatMap (stepErrs cfg w),
                                     outOfModel := acc.outOfModel || l.any (·.2.isOutOfModel) } := by
  induction l generalizing acc with
  | nil => simp
  | cons qo l ih => simp [ih, emitStep_eq, Bool.or_assoc]

/-- the units of a run after their drop-ins were merged, in the order in which they are converted, each with its result -/
def converted (t : Tree) : List (QUnit × Out) := processUnits ((withDropins t (loadedUnits t)).map (·.1))

def earlyErrs (t : Tree) : List RunErr :=
  (loadErrPaths t).map RunErr.load ++ ((withDropins t (loadedUnits t)).filter (·.2)).map (fun p => RunErr.dropin p.1.path)

theorem process_eq (cfg : Cfg) (w : World) (t : Tree) :
    process cfg w t =
      if (loadedUnits t).isEmpty then { effs := [], errs := (loadErrPaths t).map RunErr.load }
      else if !cfg.dryRun && !w.mkdirOk then { effs := [], errs := earlyErrs t ++ [RunErr.mkdir cfg.out] }
      else { effs := (if cfg.dryRun then [] else [Eff.mkdir cfg.out]) ++ (converted t).flatMap (stepEffs cfg w),
             errs := earlyErrs t ++ (converted t).flatMap (stepErrs cfg w),
             outOfModel := (converted t).any (·.2.isOutOfModel) } := by
  unfold process
  simp only [loop_eq, Bool.false_or]
  rfl

theorem nothing_loaded (t : Tree) (h : (loadedUnits t).isEmpty = true) :
    converted t = [] ∧ earlyErrs t = (loadErrPaths t).map RunErr.load := by
  rw [converted, earlyErrs, List.isEmpty_iff.mp h]
  exact ⟨rfl, List.append_nil _⟩

/-- the first case of `process_eq` as an instance of the third: the loop over no unit, only that the directory is not made -/
theorem process_loop (cfg : Cfg) (w : World) (t : Tree) (hm : cfg.dryRun = true ∨ w.mkdirOk = true) :
    process cfg w t =
      { effs := (if cfg.dryRun || (loadedUnits t).isEmpty then [] else [Eff.mkdir cfg.out]) ++ (converted t).flatMap (stepEffs cfg w),
        errs := earlyErrs t ++ (converted t).flatMap (stepErrs cfg w),
        outOfModel := (converted t).any (·.2.isOutOfModel) } := by
  have : (!cfg.dryRun && !w.mkdirOk) = false := by rcases hm with h | h <;> simp [h]
  rw [process_eq, this]
  cases he : (loadedUnits t).isEmpty
  · cases cfg.dryRun <;> rfl
  · simp [nothing_loaded t he]

theorem process_effs (cfg : Cfg) (w : World) (t : Tree) (hq : (loadedUnits t).isEmpty = false)
    (hm : cfg.dryRun = true ∨ w.mkdirOk = true) :
    (process cfg w t).effs = (if cfg.dryRun then [] else [Eff.mkdir cfg.out]) ++ (converted t).flatMap (stepEffs cfg w) := by
  rw [process_loop cfg w t hm, hq, Bool.or_false]

theorem process_errs (cfg : Cfg) (w : World) (t : Tree) (hq : (loadedUnits t).isEmpty = false)
    (hm : cfg.dryRun = true ∨ w.mkdirOk = true) :
    (process cfg w t).errs = earlyErrs t ++ (converted t).flatMap (stepErrs cfg w) := by
  rw [process_loop cfg w t hm]

theorem mem_effs (cfg : Cfg) (w : World) (t : Tree) (e : Eff) (he : e ∈ (process cfg w t).effs) :
    (e = Eff.mkdir cfg.out ∧ cfg.dryRun = false) ∨ ∃ qo ∈ converted t, e ∈ stepEffs cfg w qo := by
  rw [process_eq] at he
  split at he
  · cases he
  · split at he
    · cases he
    · rcases List.mem_append.mp he with he | he
      · cases hd : cfg.dryRun <;> simp [hd] at he
        exact .inl ⟨he, rfl⟩
      · exact .inr (List.mem_flatMap.mp he)


theorem dropin_fold (t : Tree) (qs : List QUnit) :
    ∀ (a : List QUnit) (n : Nat),
      qs.foldl (fun (acc : List QUnit × Nat) q =>
        (acc.1 ++ [(loadDropins t q).1], if (loadDropins t q).2 = true then acc.2 + 1 else acc.2)) (a, n)
      = (a ++ (withDropins t qs).map (·.1), n + ((withDropins t qs).filter (·.2)).length) := by
  induction qs with
  | nil => intro a n; simp [withDropins]
  | cons q qs ih =>
    intro a n
    simp only [withDropins, List.map_cons, List.filter_cons, List.foldl_cons] at ih ⊢
    rw [ih]
    cases (loadDropins t q).2 <;> simp <;> omega

/-- the loop of `Cv.process` goes through exactly the converted units of `Cv.runTree` (the model compared with `--dry-run` runs for
    C10 and C13), and the early errors are the ones it counts -/
theorem run_services (t : Tree) :
    (runTree t).services = converted t ∧ (runTree t).loadErrors = (loadErrPaths t).length
      ∧ (runTree t).dropinErrors = ((withDropins t (loadedUnits t)).filter (·.2)).length := by
  unfold runTree converted loadedUnits
  simp only
  rw [dropin_fold, List.nil_append, Nat.zero_add]
  refine ⟨rfl, ?_, rfl⟩
  -- the model counts the entries that are load errors, `loadErrPaths` lists their paths
  rw [loadErrPaths, List.length_filterMap_eq_countP, List.countP_eq_length_filter]
  congr 2; funext a; cases a <;> rfl

end Cv
