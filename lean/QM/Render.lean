import QM.ParseRT
/-! Renderings of a unit — every way of writing it that the file format allows (comments, blank lines, indentation, continuation
    lines, repeated headers) — and the round trip `parse ∘ render = erase` for values, entries and lines; for sections and units
    generically in the kind of line (`parse_lines`): rendered lines (C03) and the lines `to_string` prints (C06) are its two instances. -/
namespace Parse

abbrev fragOK := bsOK

theorem pv_continuation (k : Nat) (acc r : Str) :
    pv .normal 0 acc ('\\' :: (List.replicate k ' ' ++ '\n' :: r)) = pv .lc k (' ' :: acc) r := by
  simp only [pv, beq_self_eq_true, if_true]
  suffices h : ∀ ign, pv .bs ign acc (List.replicate k ' ' ++ '\n' :: r) = pv .lc (ign + k) (' ' :: acc) r by
    simpa using h 0
  induction k with
  | zero => intro ign; simp [pv]
  | succ k ih =>
    intro ign
    simp only [List.replicate_succ, List.cons_append, pv, beq_self_eq_true, if_true]
    rw [ih]; congr 1; omega

theorem pv_comment (m : Char) (hm : m = '#' ∨ m = ';') (text : Str) (ht : ∀ c ∈ text, c ≠ '\n')
    (ign : Nat) (acc r : Str) :
    pv .lc ign acc (m :: text ++ '\n' :: r) = pv .lc 0 acc r := by
  have h1 : (m == '#' || m == ';') = true := by rcases hm with rfl | rfl <;> decide
  rw [List.cons_append, pv]; simp only [h1, if_true]
  induction text with
  | nil => simp [pv]
  | cons c text ih =>
    have : (c == '\n') = false := by simpa using ht c (by simp)
    simp only [List.cons_append, pv, this, Bool.false_eq_true, if_false]
    exact ih (fun d hd => ht d (by simp [hd]))

structure Frag where
  text : Str
  spaces : Nat
  comments : List (Char × Str)

def renderComments : List (Char × Str) → Str
  | [] => []
  | (m, t) :: cs => m :: t ++ '\n' :: renderComments cs

/-- a value spelled over several lines: fragments ended by `\`, optional spaces, newline, comment lines -/
def renderValue : List Frag → Str → Str
  | [], lastT => lastT
  | f :: fs, lastT => f.text ++ '\\' :: (List.replicate f.spaces ' ' ++ '\n' :: (renderComments f.comments ++ renderValue fs lastT))

def denote : List Frag → Str → Str
  | [], lastT => lastT
  | f :: fs, lastT => f.text ++ ' ' :: denote fs lastT

def contOK (x : Str) : Prop := ∀ c, x.head? = some c → c ≠ '#' ∧ c ≠ ';' ∧ c ≠ '['

def commentsOK (cs : List (Char × Str)) : Prop :=
  ∀ p ∈ cs, (p.1 = '#' ∨ p.1 = ';') ∧ ∀ c ∈ p.2, c ≠ '\n'

/-- well-formedness of the continued part (everything after the first line) -/
def contWF : List Frag → Str → Prop
  | [], lastT => bsOK lastT = true ∧ contOK lastT
  | f :: fs, lastT => bsOK f.text = true ∧ contOK (f.text ++ ['\\']) ∧ commentsOK f.comments ∧ contWF fs lastT

theorem pv_comments (cs : List (Char × Str)) (h : commentsOK cs) (ign : Nat) (acc r : Str) :
    ∃ ign', pv .lc ign acc (renderComments cs ++ r) = pv .lc ign' acc r := by
  induction cs generalizing ign with
  | nil => exact ⟨ign, rfl⟩
  | cons p cs ih =>
    obtain ⟨m, t⟩ := p
    obtain ⟨hm, ht⟩ := h (m, t) (by simp)
    obtain ⟨ign', e⟩ := ih (fun q hq => h q (by simp [hq])) 0
    refine ⟨ign', ?_⟩
    simp only [renderComments, List.cons_append, List.append_assoc]
    rw [← List.cons_append, pv_comment m hm t ht]; exact e

theorem head_append_of_ne_nil {x y : Str} (h : x ≠ []) : (x ++ y).head? = x.head? := by
  cases x with
  | nil => exact absurd rfl h
  | cons _ _ => rfl

theorem head?_append_cons {a r : Str} {c x : Char} (h : (a ++ c :: r).head? = some x) : a.head? = some x ∨ x = c := by
  cases a with
  | nil => exact .inr (Option.some.inj h).symm
  | cons _ _ => exact .inl h

/-- what `contOK` is for: the text is read in line-continuation mode as in normal mode -/
theorem contOK.resume {s : Str} (h : contOK s) (ign : Nat) (acc : Str) : pv .lc ign acc s = pv .normal 0 acc s := by
  cases s with
  | nil => rfl
  | cons c r =>
    obtain ⟨h1, h2, h4⟩ := h c rfl
    have e1 : (c == '#' || c == ';') = false := by simp [h1, h2]
    have e4 : (c == '[') = false := by simpa using h4
    rw [pv, pv]
    simp only [e1, e4, Bool.false_eq_true, if_false]
    by_cases hn : c = '\n'
    · subst hn; rfl
    · simp [hn]

theorem contOK.append_cons {x : Str} {d : Char} (h : contOK (x ++ [d])) (r : Str) : contOK (x ++ d :: r) :=
  fun c hc => h c (by cases x <;> exact hc)

theorem pv_frag_break (f : Frag) (hb : bsOK f.text = true) (hcm : commentsOK f.comments) (acc r : Str) :
    ∃ ign', pv .normal 0 acc (f.text ++ '\\' :: (List.replicate f.spaces ' ' ++ '\n' :: (renderComments f.comments ++ r)))
      = pv .lc ign' (' ' :: (f.text.reverse ++ acc)) r := by
  rw [pv_frag f.text hb, pv_continuation]
  exact pv_comments f.comments hcm f.spaces _ r

theorem pv_cont (fs : List Frag) (lastT : Str) (wf : contWF fs lastT) (rest : Str) :
    ∀ ign acc, pv .lc ign acc (renderValue fs lastT ++ '\n' :: rest) = (acc.reverse ++ denote fs lastT, '\n' :: rest) := by
  induction fs with
  | nil =>
    intro ign acc
    have h : contOK (lastT ++ '\n' :: rest) := fun c hc => (head?_append_cons hc).elim (wf.2 c) fun h => by subst h; decide
    rw [renderValue, denote, h.resume, pv_raw lastT wf.1]
  | cons f fs ih =>
    intro ign acc
    obtain ⟨hb, hc, hcm, hwf⟩ := wf
    obtain ⟨ign', e⟩ := pv_frag_break f hb hcm acc (renderValue fs lastT ++ '\n' :: rest)
    simp only [renderValue, denote, List.append_assoc, List.cons_append]
    rw [(hc.append_cons _).resume, e, ih hwf]
    simp

/-- C03, value level: a value spelled with any continuation breaks, any number of spaces between the
    backslash and the newline and any comment lines in between parses to the fragments joined by
    single spaces -/
theorem parseValue_rendered (fs : List Frag) (lastT rest : Str)
    (wf : match fs with
          | [] => bsOK lastT = true
          | f :: fs' => bsOK f.text = true ∧ commentsOK f.comments ∧ contWF fs' lastT) :
    parseValue (renderValue fs lastT ++ '\n' :: rest) = (trimEnd (denote fs lastT), '\n' :: rest) := by
  unfold parseValue
  cases fs with
  | nil => rw [renderValue, denote, pv_raw lastT wf]; simp
  | cons f fs' =>
    obtain ⟨hb, hcm, hwf⟩ := wf
    obtain ⟨ign', e⟩ := pv_frag_break f hb hcm [] (renderValue fs' lastT ++ '\n' :: rest)
    simp only [renderValue, denote, List.append_assoc, List.cons_append]
    rw [e, pv_cont fs' lastT hwf]
    simp

structure REntry where
  indent : Str
  key : Str
  ws1 : Str
  ws2 : Str
  frags : List Frag
  lastT : Str         -- last fragment followed by optional trailing spaces/tabs

def REntry.valueWF (e : REntry) : Prop :=
  match e.frags with
  | [] => bsOK e.lastT = true
  | f :: fs' => bsOK f.text = true ∧ commentsOK f.comments ∧ contWF fs' e.lastT

def renderEntry (e : REntry) : Str :=
  e.indent ++ (e.key ++ (e.ws1 ++ '=' :: (e.ws2 ++ renderValue e.frags e.lastT)))

structure REntry.WF (env : Env) (e : REntry) : Prop where
  indent : ∀ c ∈ e.indent, isSpTab c = true
  ws1 : ∀ c ∈ e.ws1, isSpTab c = true
  ws2 : ∀ c ∈ e.ws2, isSpTab c = true
  keyNonempty : e.key ≠ []
  keyChars : e.key.all env.keyChar = true
  keyNoStop : ∀ c ∈ e.key, stopKey c = false
  keyFirst : ∀ c, e.key.head? = some c → (c == '#' || c == ';') = false ∧ (c == '[') = false ∧ isAsciiWs c = false
  value : e.valueWF
  valueHead : ∀ c, (renderValue e.frags e.lastT).head? = some c → isSpTab c = false

theorem sptab_stop {c : Char} (h : isSpTab c = true) : stopKey c = true := by
  simp only [isSpTab, Bool.or_eq_true, beq_iff_eq] at h
  rcases h with rfl | rfl <;> decide

/-- the hypotheses are those fields of `REntry.WF` that `parseEntry` depends on; the key may be empty -/
theorem parseEntry_rendered (env : Env) (e : REntry) (hws1 : ∀ c ∈ e.ws1, isSpTab c = true) (hws2 : ∀ c ∈ e.ws2, isSpTab c = true)
    (hkey : e.key.all env.keyChar = true) (hstop : ∀ c ∈ e.key, stopKey c = false) (hval : e.valueWF)
    (hhead : ∀ c, (renderValue e.frags e.lastT).head? = some c → isSpTab c = false) (rest : Str) :
    parseEntry env (e.key ++ (e.ws1 ++ '=' :: (e.ws2 ++ renderValue e.frags e.lastT)) ++ '\n' :: rest)
      = .ok ((e.key, trimEnd (denote e.frags e.lastT)), '\n' :: rest) := by
  -- the key ends at the blanks or at '='; the value begins after the blanks that follow '='
  have hs : ∀ c, (e.ws1 ++ '=' :: (e.ws2 ++ (renderValue e.frags e.lastT ++ '\n' :: rest))).head? = some c → stopKey c = true :=
    fun c hc => (head?_append_cons hc).elim (fun h => sptab_stop (hws1 c (List.mem_of_mem_head? h))) fun h => by subst h; decide
  have hv : ∀ c, (renderValue e.frags e.lastT ++ '\n' :: rest).head? = some c → isSpTab c = false :=
    fun c hc => (head?_append_cons hc).elim (hhead c) fun h => by subst h; decide
  unfold parseEntry
  simp only [List.append_assoc, List.cons_append]
  rw [show (fun c => c == '=' || c == ' ' || c == '\t' || c == '\n' || c == '\r') = stopKey from rfl,
    takeUntil_append stopKey e.key _ hstop hs]
  simp only [hkey, Bool.not_true, Bool.false_eq_true, if_false]
  rw [skipWhile_all isSpTab e.ws1 _ hws1 (fun c hc => by cases hc; decide)]
  simp only
  rw [skipWhile_all isSpTab e.ws2 _ hws2 hv, parseValue_rendered e.frags e.lastT rest hval]

inductive Item
  | comment (indent : Str) (m : Char) (text : Str)
  | blank (ws : Str)
  | entry (e : REntry)

def renderItem : Item → Str
  | .comment ind m t => ind ++ m :: t
  | .blank ws => ws
  | .entry e => renderEntry e

def renderItems (items : List Item) : Str := items.flatMap (fun it => renderItem it ++ ['\n'])

def eraseItems (items : List Item) : List (Str × Str) :=
  items.filterMap fun
    | .entry e => some (e.key, trimEnd (denote e.frags e.lastT))
    | _ => none

def Item.WF (env : Env) : Item → Prop
  | .comment ind m t => (∀ c ∈ ind, isSpTab c = true) ∧ (m = '#' ∨ m = ';') ∧ ∀ c ∈ t, c ≠ '\n'
  | .blank ws => ∀ c ∈ ws, isSpTab c = true
  | .entry e => e.WF env

theorem sptab_asciiWs {c : Char} (h : isSpTab c = true) : isAsciiWs c = true := by
  simp only [isSpTab, Bool.or_eq_true, beq_iff_eq] at h
  rcases h with rfl | rfl <;> decide

theorem parseBody_skip (env : Env) (ws : Str) (h : ∀ c ∈ ws, isSpTab c = true) (fuel : Nat) (r : Str) :
    parseBody env (fuel + ws.length) (ws ++ r) = parseBody env fuel r := by
  induction ws with
  | nil => simp
  | cons c ws ih =>
    rw [List.length_cons, List.cons_append, ← Nat.add_assoc, parseBody_ws env _ c _ (sptab_asciiWs (h c (by simp)))]
    exact ih (fun d hd => h d (by simp [hd]))

theorem parseBody_comment (env : Env) (fuel : Nat) (m : Char) (hm : m = '#' ∨ m = ';') (t r : Str)
    (ht : ∀ c ∈ t, c ≠ '\n') :
    parseBody env (fuel + 1) (m :: t ++ '\n' :: r) = parseBody env fuel ('\n' :: r) := by
  have h1 : (m == '#' || m == ';') = true := by rcases hm with rfl | rfl <;> decide
  have hm' : m ≠ '\n' := by rcases hm with rfl | rfl <;> decide
  rw [List.cons_append, parseBody]
  simp only [h1, if_true]
  rw [← List.cons_append, takeUntil_nl (m :: t) r (List.forall_mem_cons.mpr ⟨hm', ht⟩)]

def consEntry (kv : Str × Str) : Except Err (List (Str × Str) × Str) → Except Err (List (Str × Str) × Str)
  | .error e => .error e
  | .ok (kvs, r) => .ok (kv :: kvs, r)

theorem parseBody_entry (env : Env) (fuel : Nat) (c : Char) (r : Str)
    (hc : (c == '#' || c == ';') = false ∧ (c == '[') = false ∧ isAsciiWs c = false) (kv : Str × Str) (rest : Str)
    (he : parseEntry env (c :: r) = .ok (kv, rest)) :
    parseBody env (fuel + 1) (c :: r) = consEntry kv (parseBody env fuel rest) := by
  rw [parseBody]
  simp only [hc.1, hc.2.1, hc.2.2, Bool.false_eq_true, if_false, he]
  cases parseBody env fuel rest <;> rfl

/-- the section loop reads `line` and the newline after it as the entry `o`, or as nothing, and spends at most one unit of fuel
    per character: what a comment line, a blank line, an entry in any spelling and a printed entry have in common -/
def LineReads (env : Env) (line : Str) (o : Option (Str × Str)) : Prop :=
  ∃ n, n ≤ line.length + 1 ∧
    ∀ fuel rest, parseBody env (fuel + n) (line ++ '\n' :: rest) = o.elim id consEntry (parseBody env fuel rest)

theorem LineReads.indent {env : Env} {line : Str} {o : Option (Str × Str)} (ws : Str) (h : ∀ c ∈ ws, isSpTab c = true)
    (hl : LineReads env line o) : LineReads env (ws ++ line) o :=
  let ⟨n, hn, hx⟩ := hl
  ⟨n + ws.length, by rw [List.length_append]; omega, fun fuel rest => by
    rw [← Nat.add_assoc, List.append_assoc, parseBody_skip env ws h, hx]⟩

theorem lineReads_empty (env : Env) : LineReads env [] none :=
  ⟨1, Nat.le_refl _, fun fuel rest => by rw [List.nil_append, parseBody_nl]; rfl⟩

theorem lineReads_blank (env : Env) (ws : Str) (h : ∀ c ∈ ws, isSpTab c = true) : LineReads env ws none := by
  simpa using (lineReads_empty env).indent ws h

theorem lineReads_comment (env : Env) (ind : Str) (m : Char) (t : Str) (hi : ∀ c ∈ ind, isSpTab c = true)
    (hm : m = '#' ∨ m = ';') (ht : ∀ c ∈ t, c ≠ '\n') : LineReads env (ind ++ m :: t) none :=
  LineReads.indent ind hi ⟨2, by simp, fun fuel rest => by
    rw [parseBody_comment env (fuel + 1) m hm t rest ht, parseBody_nl]; rfl⟩

theorem exists_cons_of_head (a b : Str) (x : Char) (t : Str) :
    ∃ c r, a ++ (b ++ x :: t) = c :: r ∧ (a ++ (b ++ [x])).head? = some c := by
  cases a <;> cases b <;> exact ⟨_, _, rfl, rfl⟩

/-- the hypotheses are those of `REntry.WF`, but the key may be empty when nothing stands between it and '=' -/
theorem lineReads_entry (env : Env) (e : REntry) (hind : ∀ c ∈ e.indent, isSpTab c = true) (hws1 : ∀ c ∈ e.ws1, isSpTab c = true)
    (hws2 : ∀ c ∈ e.ws2, isSpTab c = true) (hkey : e.key.all env.keyChar = true) (hstop : ∀ c ∈ e.key, stopKey c = false)
    (hfirst : ∀ c, (e.key ++ (e.ws1 ++ ['='])).head? = some c → (c == '#' || c == ';') = false ∧ (c == '[') = false ∧ isAsciiWs c = false)
    (hval : e.valueWF) (hhead : ∀ c, (renderValue e.frags e.lastT).head? = some c → isSpTab c = false) :
    LineReads env (renderEntry e) (some (e.key, trimEnd (denote e.frags e.lastT))) :=
  LineReads.indent e.indent hind ⟨2, by simp; omega, fun fuel rest => by
    have he := parseEntry_rendered env e hws1 hws2 hkey hstop hval hhead rest
    obtain ⟨c, r, hl, hc⟩ := exists_cons_of_head e.key e.ws1 '=' (e.ws2 ++ renderValue e.frags e.lastT ++ '\n' :: rest)
    simp only [List.append_assoc, List.cons_append] at he hl ⊢
    rw [hl, parseBody_entry env (fuel + 1) c r (hfirst c hc) _ _ (hl ▸ he), parseBody_nl]; rfl⟩

theorem Item.WF.reads {env : Env} : ∀ {it : Item}, it.WF env → LineReads env (renderItem it)
    (match it with | .entry e => some (e.key, trimEnd (denote e.frags e.lastT)) | _ => none)
  | .blank ws, h => lineReads_blank env ws h
  | .comment ind m t, h => lineReads_comment env ind m t h.1 h.2.1 h.2.2
  | .entry e, h => lineReads_entry env e h.indent h.ws1 h.ws2 h.keyChars h.keyNoStop
      (fun c hc => h.keyFirst c (by rwa [head_append_of_ne_nil h.keyNonempty] at hc)) h.value h.valueHead

theorem parseBody_lines {α : Type} (env : Env) (text : α → Str) (entry : α → Option (Str × Str)) (xs : List α)
    (h : ∀ x ∈ xs, LineReads env (text x) (entry x)) (tail : Str) (htail : tail = [] ∨ ∃ t, tail = '[' :: t) :
    ∀ fuel, fuel ≥ (xs.flatMap fun x => text x ++ ['\n']).length + 1 →
      parseBody env fuel ((xs.flatMap fun x => text x ++ ['\n']) ++ tail) = .ok (xs.filterMap entry, tail) := by
  induction xs with
  | nil =>
    intro fuel hf
    obtain ⟨f, rfl⟩ : ∃ f, fuel = f + 1 := ⟨fuel - 1, by simp at hf; omega⟩
    rcases htail with rfl | ⟨t, rfl⟩ <;> simp [parseBody]
  | cons x xs ih =>
    intro fuel hf
    obtain ⟨n, hn, hx⟩ := h x List.mem_cons_self
    simp only [List.flatMap_cons, List.length_append, List.length_cons, List.length_nil] at hf
    obtain ⟨f, rfl⟩ : ∃ f, fuel = f + n := ⟨fuel - n, by omega⟩
    simp only [List.flatMap_cons, List.append_assoc, List.cons_append, List.nil_append]
    rw [hx, ih (fun y hy => h y (List.mem_cons_of_mem _ hy)) f (by omega), List.filterMap_cons]
    cases entry x <;> rfl

structure RSect where
  name : Str
  items : List Item

def renderSect (s : RSect) : Str := '[' :: s.name ++ ']' :: '\n' :: renderItems s.items

def renderSects (secs : List RSect) : Str := secs.flatMap renderSect

/-- the plain unit a rendering denotes: repeated headers extend the same section, in file order -/
def eraseSects (u : Unit) (secs : List RSect) : Unit :=
  secs.foldl (fun u s => addEntries u s.name (eraseItems s.items)) u

structure RSect.WF (env : Env) (s : RSect) : Prop where
  nonempty : s.name ≠ []
  nameChars : ∀ c ∈ s.name, (c == ']' || c == '\n') = false
  items : ∀ it ∈ s.items, it.WF env
  valid : (eraseItems s.items).all (fun kv => env.validRaw kv.2) = true

theorem parseUnit_section (env : Env) (fuel : Nat) (u : Unit) (name r' : Str) (es : List (Str × Str)) (rest : Str)
    (hne : name ≠ []) (hc : ∀ c ∈ name, (c == ']' || c == '\n') = false)
    (hb : parseBody env (r'.length + 1) r' = .ok (es, rest)) (hv : es.all (fun kv => env.validRaw kv.2) = true)
    (hlen : rest.length ≤ r'.length) :
    parseUnit env (fuel + 1) u ('[' :: name ++ ']' :: r') = parseUnit env fuel (addEntries u name es) rest := by
  rw [List.cons_append, parseUnit]
  simp only [show ('[' == '#' || '[' == ';') = false by decide, Bool.false_eq_true, if_false, beq_self_eq_true, if_true]
  rw [← List.cons_append, parseHeader_printed name _ hne hc]
  simp only [hb, hv, if_true]
  rw [if_pos (by simp; omega)]

def sectText {α : Type} (text : α → Str) (p : Str × List α) : Str :=
  '[' :: p.1 ++ ']' :: '\n' :: p.2.flatMap fun x => text x ++ ['\n']

theorem flatMap_sectText_cons {α : Type} (text : α → Str) (p : Str × List α) (secs : List (Str × List α)) :
    (p :: secs).flatMap (sectText text)
      = '[' :: p.1 ++ ']' :: ('\n' :: (p.2.flatMap fun x => text x ++ ['\n']) ++ secs.flatMap (sectText text)) := by
  simp [sectText]

theorem sectText_tail {α : Type} (text : α → Str) (secs : List (Str × List α)) :
    secs.flatMap (sectText text) = [] ∨ ∃ t, secs.flatMap (sectText text) = '[' :: t := by
  cases secs with
  | nil => exact .inl rfl
  | cons p secs => exact .inr ⟨_, flatMap_sectText_cons text p secs⟩

theorem length_le_flatMap_sectText {α : Type} (text : α → Str) (secs : List (Str × List α)) :
    secs.length ≤ (secs.flatMap (sectText text)).length := by
  induction secs with
  | nil => exact Nat.le_refl _
  | cons p secs ih => simp only [flatMap_sectText_cons, List.length_cons, List.length_append]; omega

theorem parseUnit_lines {α : Type} (env : Env) (text : α → Str) (entry : α → Option (Str × Str)) (secs : List (Str × List α))
    (wf : ∀ p ∈ secs, p.1 ≠ [] ∧ (∀ c ∈ p.1, (c == ']' || c == '\n') = false) ∧ (∀ x ∈ p.2, LineReads env (text x) (entry x)) ∧
      (p.2.filterMap entry).all (fun kv => env.validRaw kv.2) = true) :
    ∀ (u : Unit) (fuel : Nat), fuel ≥ secs.length + 1 →
      parseUnit env fuel u (secs.flatMap (sectText text)) = .ok (secs.foldl (fun u p => addEntries u p.1 (p.2.filterMap entry)) u) := by
  induction secs with
  | nil =>
    intro u fuel hf
    obtain ⟨f, rfl⟩ : ∃ f, fuel = f + 1 := ⟨fuel - 1, by simp at hf; omega⟩
    rfl
  | cons p secs ih =>
    intro u fuel hf
    obtain ⟨f, rfl⟩ : ∃ f, fuel = f + 1 := ⟨fuel - 1, by simp at hf; omega⟩
    obtain ⟨hne, hc, hl, hv⟩ := wf p List.mem_cons_self
    rw [flatMap_sectText_cons, parseUnit_section env f u p.1 _ (p.2.filterMap entry) (secs.flatMap (sectText text)) hne hc
      (by rw [List.cons_append, List.length_cons, parseBody_nl]
          exact parseBody_lines env text entry p.2 hl _ (sectText_tail text secs) _ (by simp))
      hv (by simp; omega)]
    exact ih (fun x hx => wf x (List.mem_cons_of_mem _ hx)) _ f (by simp at hf ⊢; omega)

/-- the fuel `parse` gives is enough: one unit per character, and every section has a header -/
theorem parse_lines {α : Type} (env : Env) (text : α → Str) (entry : α → Option (Str × Str)) (secs : List (Str × List α))
    (wf : ∀ p ∈ secs, p.1 ≠ [] ∧ (∀ c ∈ p.1, (c == ']' || c == '\n') = false) ∧ (∀ x ∈ p.2, LineReads env (text x) (entry x)) ∧
      (p.2.filterMap entry).all (fun kv => env.validRaw kv.2) = true) :
    parse env (secs.flatMap (sectText text)) = .ok (secs.foldl (fun u p => addEntries u p.1 (p.2.filterMap entry)) []) :=
  parseUnit_lines env text entry secs wf [] _ (Nat.succ_le_succ (length_le_flatMap_sectText text secs))

end Parse
