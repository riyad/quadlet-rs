import QM.Lookup
import QM.MMapLemmas
/-! Lemmas about the lookups: the reset fold (C15), that every lookup reads the unit only through the assignment history of its
    key, and what `addEntry` does to a history. -/
namespace Cv
open MM

theorem fold_noEmpty (suf res : List Str) (h : ∀ v ∈ suf, v.isEmpty = false) :
    suf.foldl resetStep res = res ++ suf := by
  simpa using foldl_appends id resetStep (fun v => [v]) suf (fun res v hv => by simp [resetStep, h v hv]) res

theorem fold_reset_spec (pre suf : List Str) (hsuf : ∀ v ∈ suf, v.isEmpty = false)
    (hpre : pre = [] ∨ ∃ p, pre = p ++ [[]]) : (pre ++ suf).foldl resetStep [] = suf := by
  have hp : pre.foldl resetStep [] = [] := by
    rcases hpre with rfl | ⟨p, rfl⟩
    · rfl
    · rw [List.foldl_append]; rfl
  rw [List.foldl_append, hp, fold_noEmpty suf [] hsuf, List.nil_append]

theorem history_split (h : List Str) : ∃ pre suf, h = pre ++ suf ∧ (∀ v ∈ suf, v.isEmpty = false) ∧
    (pre = [] ∨ ∃ p, pre = p ++ [[]]) := by
  induction h with
  | nil => exact ⟨[], [], rfl, by simp, Or.inl rfl⟩
  | cons v h ih =>
    obtain ⟨pre, suf, rfl, h1, h2⟩ := ih
    rcases h2 with rfl | ⟨p, rfl⟩
    · cases v with
      | nil => exact ⟨[[]], suf, rfl, h1, Or.inr ⟨[], rfl⟩⟩
      | cons c cs => exact ⟨[], (c :: cs) :: suf, rfl, List.forall_mem_cons.mpr ⟨rfl, h1⟩, Or.inl rfl⟩
    · exact ⟨v :: p ++ [[]], suf, by simp, h1, Or.inr ⟨v :: p, by simp⟩⟩

theorem lookupLastValue_congr {u u' : SUnit} {sec k : Str} (h : assignments u sec k = assignments u' sec k) :
    lookupLastValue u sec k = lookupLastValue u' sec k := by unfold lookupLastValue; rw [h]
theorem lookup_congr {u u' : SUnit} {sec k : Str} (h : assignments u sec k = assignments u' sec k) :
    lookup u sec k = lookup u' sec k := by unfold lookup; rw [lookupLastValue_congr h]
theorem hasKey_congr {u u' : SUnit} {sec k : Str} (h : assignments u sec k = assignments u' sec k) :
    hasKey u sec k = hasKey u' sec k := by unfold hasKey; rw [h]
theorem lookupAllValues_congr {u u' : SUnit} {sec k : Str} (h : assignments u sec k = assignments u' sec k) :
    lookupAllValues u sec k = lookupAllValues u' sec k := by unfold lookupAllValues; rw [h]
theorem lookupAll_congr {u u' : SUnit} {sec k : Str} (h : assignments u sec k = assignments u' sec k) :
    lookupAll u sec k = lookupAll u' sec k := by unfold lookupAll; rw [lookupAllValues_congr h]
theorem lookupBool_congr {u u' : SUnit} {sec k : Str} (h : assignments u sec k = assignments u' sec k) :
    lookupBool u sec k = lookupBool u' sec k := by unfold lookupBool; rw [lookupLastValue_congr h]
theorem lookupAllArgs_congr {u u' : SUnit} {sec k : Str} (h : assignments u sec k = assignments u' sec k) :
    lookupAllArgs u sec k = lookupAllArgs u' sec k := by unfold lookupAllArgs; rw [lookupAllValues_congr h]
theorem lookupAllStrv_congr {u u' : SUnit} {sec k : Str} (h : assignments u sec k = assignments u' sec k) :
    lookupAllStrv u sec k = lookupAllStrv u' sec k := by unfold lookupAllStrv; rw [lookupAllValues_congr h]
theorem lookupAllKeyVal_congr {u u' : SUnit} {sec k : Str} (h : assignments u sec k = assignments u' sec k) :
    lookupAllKeyVal u sec k = lookupAllKeyVal u' sec k := by unfold lookupAllKeyVal; rw [lookupAllValues_congr h]

theorem assignments_addEntry (u : SUnit) (sec key raw s' k' : Str) :
    assignments (addEntry u sec key raw) s' k' =
      assignments u s' k' ++ (if s' = sec ∧ key = k' then [raw] else []) := by
  unfold assignments
  rw [entriesOf_addEntry]
  by_cases hs : s' = sec
  · subst hs; by_cases hk : key = k' <;> simp [hk]
  · simp [hs]

end Cv
