import QM.Quote
import QM.EscLemmas
import QM.Strv
namespace P

theorem implSep_sound : ∀ c ∈ Gen.whitespace, isSep c = true := by decide
theorem implSep_complete : ∀ c ∈ [' ', '\t', '\n', '\r'], Gen.whitespace.contains c = true := by decide
/-- the code's separator set is systemd's WHITESPACE -/
@[simp] theorem implSep_eq (c : Char) : implSep c = isSep c := by
  rw [Bool.eq_iff_iff]
  constructor
  · intro h; exact implSep_sound c (by simpa [implSep] using h)
  · intro h; exact implSep_complete c (by simpa [isSep, or_assoc] using h)
@[simp] theorem implDropSeps_eq (s : Str) : implDropSeps s = dropSeps s := by
  induction s with
  | nil => rfl
  | cons c r ih => simp [implDropSeps, dropSeps, ih]

/-! The simulations below all have one shape, and go one way: the implementation returns what the specification returns
    wherever the specification does not fail (`.einval`), be it a word or "no word left".  Where the specification fails nothing
    is said: there `SplitWord` may return a word. -/

/-- both Rust splitters skip separators and then read one word, as `extract_first_word` does
    (the left side is what `Impl.next` and `Impl.strvNext` unfold to, for their `word`) -/
theorem next_of_word {f : Flags} {word : Str → Res}
    (hw : ∀ s, Spec.word f none false [] s ≠ .einval → word s = Spec.word f none false [] s)
    (s : Str) (h : Spec.extractFirst f s ≠ .einval) :
    (match implDropSeps s with | [] => .noWord | c :: r => word (c :: r)) = Spec.extractFirst f s := by
  unfold Spec.extractFirst at h ⊢
  rw [implDropSeps_eq]
  cases hd : dropSeps s with
  | nil => rfl
  | cons c r => rw [hd] at h; exact hw _ h

theorem impl_word_of_spec {f : Flags} (hu : f.unquote = true) (hc : f.cunescape = true) (hr : f.retainEscape = false)
    (q bs acc s) (h : Spec.word f q bs acc s ≠ .einval) : Impl.word q bs acc s = Spec.word f q bs acc s := by
  fun_induction Spec.word f q bs acc s
  -- after a backslash each machine has its own decoder; where the specification's decodes, the other decodes the same
  case case3 q c r _ d r' hdec ih =>
    rw [Impl.word]
    split <;> rename_i heq <;> rw [decode_impl_of_spec hdec] at heq <;> cases heq
    exact ih h
  -- the specification fails, which `h` excludes: the input ends after a backslash (case2) or inside a quote (case8) without
  -- RELAX, where `Impl.word` returns the word; or the escape does not decode (case4)
  case case2 | case4 | case8 => exact absurd rfl h
  -- everywhere else the two take the same branch, given `hu`, `hc`, `hr`
  all_goals simp_all [Impl.word]

/-- one call, one way: whatever systemd (UNQUOTE|CUNESCAPE, with or without RELAX) returns short of an error,
    SplitWord::next returns too -/
theorem impl_next_of_spec {f : Flags} (hu : f.unquote = true) (hc : f.cunescape = true) (hr : f.retainEscape = false)
    (s) (h : Spec.extractFirst f s ≠ .einval) : Impl.next s = Spec.extractFirst f s :=
  next_of_word (impl_word_of_spec hu hc hr none false []) s h

theorem impl_strv_of_spec (q acc s) (h : Spec.word strvFlags q false acc s ≠ .einval) :
    Impl.strvWord q acc s = Spec.word strvFlags q false acc s := by
  fun_induction Impl.strvWord q acc s
  case case1 q acc => cases q <;> rw [Spec.word] at h ⊢ <;> simp_all
  all_goals rw [Spec.word] at h ⊢; simp_all

/-- whatever systemd's extract_first_word(UNQUOTE|RETAIN_ESCAPE) returns short of an error,
    SplitStrv::next returns too (C05, for the list keys) -/
theorem strv_next_of_spec (s) (h : Spec.extractFirst strvFlags s ≠ .einval) :
    Impl.strvNext s = Spec.extractFirst strvFlags s :=
  next_of_word (impl_strv_of_spec none []) s h

theorem collect_sim {spec impl : Str → Res} (h : ∀ s, spec s ≠ .einval → impl s = spec s) {fuel : Nat} {s : Str}
    {ws : List Str} (hc : collect spec fuel s = some ws) : collectImpl impl fuel s = ws := by
  induction fuel generalizing s ws with
  | zero => cases hc
  | succ n ih =>
    have hi : impl s = spec s := h s fun e => by simp [collect, e] at hc
    rw [collect] at hc
    rw [collectImpl, hi]
    cases hs : spec s with
    | einval => simp [hs] at hc
    | noWord => simpa [hs] using hc
    | word w rest =>
      rw [hs] at hc
      obtain ⟨ws', hc', rfl⟩ := Option.map_eq_some_iff.mp hc
      exact congrArg _ (ih hc')

end P
