import QM.Conv
/-! `splitOnce` / `splitLast` by what they do on `a ++ c :: b`, and what follows for file names, stems and extensions. -/
namespace Cv

theorem span_loop {α} (p : α → Bool) (l acc : List α) :
    List.span.loop p l acc = (acc.reverse ++ l.takeWhile p, l.dropWhile p) := by
  induction l generalizing acc with
  | nil => simp [List.span.loop]
  | cons a l ih =>
    simp only [List.span.loop]
    cases h : p a with
    | true => simp [ih, h]
    | false => simp [h]

theorem span_eq {α} (p : α → Bool) (l : List α) : l.span p = (l.takeWhile p, l.dropWhile p) := by
  simp [List.span, span_loop]

theorem bne_of_not_mem {c : Char} {a : Str} (h : c ∉ a) : ∀ d ∈ a, (d != c) = true :=
  fun d hd => by simpa using fun (e : d = c) => h (e ▸ hd)

theorem splitOnce_append (c : Char) (a b : Str) (h : c ∉ a) : splitOnce c (a ++ c :: b) = some (a, b) := by
  simp [splitOnce, span_eq, List.takeWhile_append_of_pos (bne_of_not_mem h), List.dropWhile_append_of_pos (bne_of_not_mem h)]

theorem splitOnce_of_not_mem (c : Char) (x : Str) (h : c ∉ x) : splitOnce c x = none := by
  have : x.dropWhile (· != c) = [] := by simpa using List.dropWhile_append_of_pos (l₂ := []) (bne_of_not_mem h)
  simp [splitOnce, span_eq, this]

theorem splitOnce_cases (c : Char) (x : Str) :
    (c ∉ x ∧ splitOnce c x = none) ∨ ∃ a b, x = a ++ c :: b ∧ c ∉ a ∧ splitOnce c x = some (a, b) := by
  by_cases h : c ∈ x
  · obtain ⟨a, b, rfl, ha⟩ := List.eq_append_cons_of_mem h
    exact Or.inr ⟨a, b, rfl, ha, splitOnce_append c a b ha⟩
  · exact Or.inl ⟨h, splitOnce_of_not_mem c x h⟩

theorem splitLast_cases (c : Char) (x : Str) :
    (c ∉ x ∧ splitLast c x = none) ∨ ∃ a b, x = a ++ c :: b ∧ c ∉ b ∧ splitLast c x = some (a, b) := by
  unfold splitLast
  rcases splitOnce_cases c x.reverse with ⟨h, e⟩ | ⟨a, b, hx, ha, e⟩
  · exact Or.inl ⟨by simpa using h, by rw [e]⟩
  · refine Or.inr ⟨b.reverse, a.reverse, ?_, by simpa using ha, by rw [e]⟩
    simpa using congrArg List.reverse hx

theorem splitLast_append (c : Char) (a b : Str) (h : c ∉ b) : splitLast c (a ++ c :: b) = some (a, b) := by
  unfold splitLast
  rw [show (a ++ c :: b).reverse = b.reverse ++ c :: a.reverse by simp, splitOnce_append c _ _ (by simpa using h)]
  simp

theorem endsWith_iff (x suf : Str) : endsWith x suf = true ↔ ∃ pre, x = pre ++ suf := by
  rw [endsWith, List.isSuffixOf_iff_suffix]
  exact exists_congr fun _ => eq_comm

theorem extension_append (pre e : Str) (h : '.' ∉ e) : extension (pre ++ '.' :: e) = if pre.isEmpty then [] else e := by
  unfold extension; rw [splitLast_append _ _ _ h]

theorem fileName_noSlash (p : Str) : '/' ∉ fileName p := by
  unfold fileName
  rcases splitLast_cases '/' p with ⟨h, e⟩ | ⟨a, b, _, hb, e⟩ <;> rw [e]
  · exact h
  · exact hb

theorem stem_ext_mem (name : Str) : (∀ d ∈ fileStem name, d ∈ name) ∧ ∀ d ∈ extension name, d ∈ name := by
  unfold fileStem extension
  rcases splitLast_cases '.' name with ⟨_, e⟩ | ⟨a, b, rfl, _, e⟩ <;> rw [e]
  · exact ⟨fun _ h => h, fun _ h => nomatch h⟩
  · simp only; split
    · exact ⟨fun _ h => h, fun _ h => nomatch h⟩
    · exact ⟨fun d h => List.mem_append_left _ h, fun d h => List.mem_append_right _ (List.mem_cons_of_mem _ h)⟩

end Cv
