import QM.Refine
/-! The processing loop (`Refine.run`) gives every unit its declarative result (`Refine.decl`), by one invariant of the loop's
    state (`Inv`); the priority order makes the table final wherever the next unit reads it (`Inv.tbl_eq_fin`) and keeps the
    units still to come from linking to it (`linkTo_eq_none`). -/
namespace Refine

variable {U N V W O : Type} [DecidableEq N] (S : Sys U N V W O)

theorem findUnit_of_mem (units : List U) (hd : (units.map S.name).Nodup) (u : U) (hu : u ∈ units) :
    findUnit S units (S.name u) = some u := by
  obtain ⟨as, bs, rfl⟩ := List.append_of_mem hu
  rw [List.map_append, List.map_cons, List.nodup_append] at hd
  rw [findUnit, List.find?_eq_some_iff_append]
  exact ⟨by simp, as, bs, rfl, fun a ha => by simpa using hd.2.2 _ (List.mem_map_of_mem ha) _ List.mem_cons_self⟩

theorem findUnit_some_mem (units : List U) (n : N) (u : U) (h : findUnit S units n = some u) :
    u ∈ units ∧ S.name u = n := by
  unfold findUnit at h
  exact ⟨List.mem_of_find?_eq_some h, by simpa using List.find?_some h⟩

theorem fin_of_mem (units : List U) (hd : (units.map S.name).Nodup) (u : U) (hu : u ∈ units) :
    fin S units (S.name u) = some ((S.publish u).getD (S.prefill u)) := by
  rw [fin, findUnit_of_mem S units hd u hu]; rfl

theorem fin_eq_none (units : List U) (n : N) (h : ∀ u ∈ units, S.name u ≠ n) : fin S units n = none := by
  rw [fin, findUnit, List.find?_eq_none.mpr fun u hu => by simpa using h u hu]; rfl

theorem init_of_mem (units : List U) (hd : (units.map S.name).Nodup) (u : U) (hu : u ∈ units) :
    (init S units).tbl (S.name u) = some (S.prefill u) := by
  simp only [init]; rw [findUnit_of_mem S units hd u hu]; rfl

theorem fin_eq_init (units : List U) (n : N) (h : ∀ u ∈ units, S.name u = n → S.publish u = none) :
    fin S units n = (init S units).tbl n := by
  simp only [fin, init]
  cases hf : findUnit S units n with
  | none => rfl
  | some u =>
    obtain ⟨hu, hn⟩ := findUnit_some_mem S units n u hf
    simp [h u hu hn]

theorem linkTo_eq_some (units : List U) (n : N) (c : U) (w : W) :
    linkTo S units n c = some w ↔ S.link c (fin S units) = some (n, w) := by
  unfold linkTo
  cases S.link c (fin S units) with
  | none => simp
  | some p =>
    obtain ⟨m, w'⟩ := p
    by_cases hm : m = n <;> simp [hm]

theorem linkTo_eq_none {units : List U} (hL : Local S units) {c u : U} (hc : c ∈ units) (hu : u ∈ units)
    (h : S.prio u ≤ S.prio c) : linkTo S units (S.name u) c = none := by
  cases hl : linkTo S units (S.name u) c with
  | none => rfl
  | some w =>
    have := hL.link_higher c hc _ _ w ((linkTo_eq_some S units _ c w).mp hl) u hu rfl
    omega

theorem run_cons (s : St N V W) (u : U) (us : List U) :
    run S s (u :: us) = (u, S.out u s.tbl (s.acc (S.name u))) :: run S (step S s u).1 us := rfl

theorem step_tbl (s : St N V W) (u : U) (n : N) :
    (step S s u).1.tbl n = if n = S.name u then (S.publish u).or (s.tbl n) else s.tbl n := by
  simp only [step]
  cases S.publish u with
  | none => simp
  | some v => by_cases hn : n = S.name u <;> simp [upd, hn]

theorem step_acc (units : List U) (s : St N V W) (u : U) (h : S.link u s.tbl = S.link u (fin S units)) (n : N) :
    (step S s u).1.acc n = s.acc n ++ (linkTo S units n u).toList := by
  simp only [step, linkTo, h]
  cases S.link u (fin S units) with
  | none => simp
  | some p =>
    obtain ⟨m, w⟩ := p
    by_cases hm : m = n
    · subst hm; simp [upd]
    · have hm' : ¬n = m := fun e => hm e.symm
      simp [upd, hm, hm']

/-- the loop's state after the units `pre`; the links are the ones under the *final* table, not the one of the moment -/
structure Inv (units pre : List U) (s : St N V W) : Prop where
  tbl : ∀ n, s.tbl n = if n ∈ pre.map S.name then fin S units n else (init S units).tbl n
  acc : ∀ n, s.acc n = pre.filterMap (linkTo S units n)

theorem Inv.init (units : List U) : Inv S units [] (init S units) := ⟨fun _ => rfl, fun _ => rfl⟩

variable {S}

theorem Inv.tbl_eq_fin {units pre : List U} {s : St N V W} (hinv : Inv S units pre s) (n : N)
    (h : ∀ u ∈ units, S.name u = n → u ∈ pre ∨ S.publish u = none) : s.tbl n = fin S units n := by
  rw [hinv.tbl]
  split
  · rfl
  · rename_i hn
    exact (fin_eq_init S units n fun u hu hu' => (h u hu hu').resolve_left fun hp => hn (hu' ▸ List.mem_map_of_mem hp)).symm

theorem Inv.step {units pre : List U} {s : St N V W} (hinv : Inv S units pre s) (hd : (units.map S.name).Nodup) {u : U}
    (hu : u ∈ units) (hlink : S.link u s.tbl = S.link u (fin S units)) : Inv S units (pre ++ [u]) (step S s u).1 := by
  refine ⟨fun n => ?_, fun n => ?_⟩
  · rw [step_tbl]
    by_cases hn : n = S.name u
    · subst hn
      rw [if_pos rfl, if_pos (by simp), hinv.tbl, fin_of_mem S units hd u hu, init_of_mem S units hd u hu]
      -- whether or not the entry was already final: it is now, be it what `u` publishes or what was pre-filled
      split <;> cases S.publish u <;> rfl
    · rw [if_neg hn, hinv.tbl]
      simp only [List.map_append, List.mem_append, List.map_cons, List.map_nil, List.mem_singleton, hn, or_false]
  · rw [step_acc S units s u hlink, hinv.acc, List.filterMap_append, List.filterMap_cons]
    cases linkTo S units n u <;> rfl

variable (S)

theorem run_of_inv (units order : List U) (hL : Local S units) (hd : (units.map S.name).Nodup) (hp : order.Perm units)
    (hs : order.Pairwise (fun a b => S.prio a ≤ S.prio b)) :
    ∀ (post pre : List U) (s : St N V W), pre ++ post = order → Inv S units pre s →
      run S s post = post.map (fun u => (u, decl S units order u))
  | [], _, _, _, _ => rfl
  | u :: post, pre, s, hsplit, hinv => by
    subst hsplit
    have hge : ∀ x ∈ u :: post, x ∈ units ∧ S.prio u ≤ S.prio x := fun x hx =>
      ⟨hp.subset (List.mem_append_right _ hx), (List.mem_cons.mp hx).elim (fun e => e ▸ Nat.le_refl _)
        ((List.pairwise_cons.mp (List.pairwise_append.mp hs).2.1).1 x)⟩
    have hu := (hge u List.mem_cons_self).1
    have hlower : ∀ u' ∈ units, S.prio u' < S.prio u → u' ∈ pre := fun u' hu' hlt =>
      (List.mem_append.mp (hp.symm.subset hu')).resolve_right fun hx => by have := (hge u' hx).2; omega
    -- the table is final wherever `u` reads it, and nobody at or after `u` links to `u`
    have hA : ∀ n ∈ S.reads u, s.tbl n = fin S units n := fun n hn =>
      hinv.tbl_eq_fin n fun u' hu' hn' => (hL.reads_lower u hu n hn u' hu' hn').imp_left (hlower u' hu')
    have hB : (u :: post).filterMap (linkTo S units (S.name u)) = [] :=
      List.filterMap_eq_nil_iff.mpr fun c hc => linkTo_eq_none S hL (hge c hc).1 hu (hge c hc).2
    rw [run_cons, List.map_cons, run_of_inv units _ hL hd hp hs post (pre ++ [u]) _ (by simp)
      (hinv.step hd hu (hL.link_local u _ _ hA)), decl, List.filterMap_append, hB, List.append_nil, ← hinv.acc,
      hL.out_local u _ _ _ hA]

end Refine
