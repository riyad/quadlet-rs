import QM.EmitLemmas
import QM.ConvTrace
import QM.ConvAlong
import QM.QuoteLemmas
/-! Whole-command shapes of the converters: on success the generated service holds an Exec line that is the rendering
    (`quote_words`) of an explicit argument vector in which the table-driven options of the unit's keys appear as
    contiguous segments, in table order, between the fixed parts. -/
namespace Cv
open MM

def HasExec (svc : SUnit) (key : String) (cmd : List Str) : Prop :=
  (s key, P.quoteWords cmd) ∈ entriesOf svc (s "Service")

theorem HasExec.of_addRawExec {svc svc' : SUnit} {k : String} {args : List Str} (h : addRawExec svc k args = .ok svc') :
    HasExec svc' k args := by
  rw [addRawExec_ok _ _ _ _ h]
  unfold HasExec
  rw [entriesOf_addEntry]
  simp

/-- a rendered command line stays: the entries of a key that `set` is not used on only grow (`Built.sublist`) -/
theorem HasExec.of_built {M : List (Str × Str)} {a b : SUnit} {key : String} {cmd : List Str} (hx : HasExec a key cmd)
    (h : Built M a b) (hk : s key ∈ rawKeys := by mem_lit) : HasExec b key cmd :=
  (List.mem_filter.mp ((h.sublist (rawKeys_not_set _ hk)).subset (List.mem_filter.mpr ⟨hx, beq_self_eq_true _⟩))).1

/-- what systemd will run: the entry splits (extract_first_word, UNQUOTE|CUNESCAPE, iterated) into exactly `cmd` -/
theorem HasExec.splits {svc : SUnit} {key : String} {cmd : List Str} (h : HasExec svc key cmd)
    (hw : ∀ w ∈ cmd, ∀ c ∈ w, c ≠ '\x00') :
    ∃ raw, (s key, raw) ∈ entriesOf svc (s "Service") ∧ P.splitAll P.execFlags raw = some cmd :=
  ⟨_, h, P.splitAll_quoteWords cmd hw⟩


def podNameOf (path : Str) (u : SUnit) : Str :=
  if ((lookup u (s "Pod") (s "PodName")).getD []).isEmpty then s "systemd-" ++ fileStem (fileName path)
  else (lookup u (s "Pod") (s "PodName")).getD []

def kubeAutoUpdate (u : SUnit) : List Str :=
  (lookupAllStrv u (s "Kube") (s "AutoUpdate")).flatMap fun upd =>
    match splitOnce '/' upd with
    | some (a, t) => [s "--annotation", s "io.containers.autoupdate" ++ ('/' :: a) ++ '=' :: t]
    | none => [s "--annotation", s "io.containers.autoupdate=" ++ upd]
def kubeConfigMaps (path : Str) (u : SUnit) : List Str :=
  (lookupAllStrv u (s "Kube") (s "ConfigMap")).flatMap fun c => [s "--configmap", absFromUnit path c]

/-! ### .kube and .build: the shapes are read off the converters (those of the other converters follow from their segment lists) -/

theorem C02_kube_shape (E : Env) (path : Str) (u svc : SUnit) (h : fromKube E path u = .ok svc) :
    ∃ maps nets, HasExec svc "ExecStart"
      (baseCmd E u (s "Kube") ++ [s "kube", s "play", s "--replace", s "--service-container=true"]
        ++ (match lookup u (s "Kube") (s "ExitCodePropagation") with
            | some e => if e.isEmpty then [] else [s "--service-exit-code-propagation=" ++ e] | none => [])
        ++ logDriver u (s "Kube") ++ logOpt u (s "Kube")
        ++ maps ++ nets ++ kubeAutoUpdate u ++ kubeConfigMaps path u ++ publishPorts u (s "Kube") ++ podmanArgs u (s "Kube")
        ++ [absFromUnit path ((lookup u (s "Kube") (s "Yaml")).getD [])]) := by
  unfold fromKube at h
  simp only [bind_ok, guard_ok] at h
  -- the two key checks (a `()` and its equation each), the guard on Yaml= (`-`); then a name and an equation per bind: `killMode` (`s1`),
  -- the `match` on Type= (`s2`), the user mappings, networks (`x4`), ExecStart (`s5`), ExecStopPost (`s6`), the working directory (`x7`)
  obtain ⟨_, _, _, _, -, s1, _, s2, _, maps, _, x4, _, s5, hexec, s6, hstop, x7, hwd, hfin⟩ := h
  cases hfin
  exact ⟨maps, x4.1, (HasExec.of_addRawExec hexec).of_built (.after ((handleSetWorkingDirectory_along ..).built hwd) <| .addRawExec hstop <| .refl _)⟩


theorem C02_build_shape (E : Env) (path : Str) (u svc : SUnit) (h : fromBuild E path u = .ok svc) :
    ∃ nets vols fileArgs tail, HasExec svc "ExecStart"
      (baseCmd E u (s "Build") ++ [s "build"]
        ++ (match lookup u (s "Build") (s "Pull") with | some p => if p.isEmpty then [] else [s "--pull=" ++ p] | none => [])
        ++ addString u (s "Build") Gen.tbl_from_build_unit_string_keys
        ++ addBool u (s "Build") Gen.tbl_from_build_unit_bool_keys
        ++ addAllStrings u (s "Build") Gen.tbl_from_build_unit_all_string_keys
        ++ addKeys "--annotation" (lookupAllKeyVal u (s "Build") (s "Annotation"))
        ++ addKeys "--env" (lookupAllKeyVal u (s "Build") (s "Environment"))
        ++ addKeys "--label" (lookupAllKeyVal u (s "Build") (s "Label"))
        ++ nets ++ ((lookupAllArgs u (s "Build") (s "Secret")).flatMap fun x => [s "--secret", x])
        ++ vols ++ fileArgs ++ podmanArgs u (s "Build") ++ tail) := by
  unfold fromBuild at h
  simp only [bind_ok, guard_ok] at h
  -- the unit's own table entry and its lookup, the guard on its resource name (`-`), the two key checks; then per bind: networks (`x3`),
  -- volumes (`x4`), the working directory (`x5`), the `match` on WorkingDirectory= / File= (`x6`), the `tail`, ExecStart (`s8`)
  obtain ⟨self, _, -, _, _, _, _, x3, _, x4, _, x5, _, x6, _, tail, _, s8, hexec, hfin⟩ := h
  cases hfin
  exact ⟨x3.1, x4.1, _, tail, (HasExec.of_addRawExec hexec).of_built (built_oneShot (M := []) _ _)⟩

end Cv
