import QM.Quote
import QM.EscLemmas
/-! What `quote_words` (quoted.rs) writes, systemd's `extract_first_word` with UNQUOTE|CUNESCAPE splits back into the words it was
    given (`splitAll_quoteWords`, = C01), and it holds no newline (C06). -/
namespace P

@[simp] theorem ef_unquote : execFlags.unquote = true := rfl
@[simp] theorem ef_cunescape : execFlags.cunescape = true := rfl
@[simp] theorem ef_relax : execFlags.relax = false := rfl
@[simp] theorem ef_retain : execFlags.retainEscape = false := rfl

@[simp] theorem specCfg_tbl : specCfg.tbl = simpleTable := rfl

/-- an arm of `quote_value` is either the character itself (allowed when the character is inert
    inside double quotes) or a backslash and a letter that systemd decodes to that character -/
def armOK (p : Char × Str) : Bool :=
  (p.2 == [p.1] && p.1 != '"' && p.1 != '\\') ||
  (match p.2 with
   | [b, e] => b == '\\' && simpleTable.lookup e == some p.1
   | _ => false)

theorem quoteArms_sound : ∀ p ∈ Gen.quoteArms, armOK p = true := by decide

theorem armOK_cases {c : Char} {e : Str} (h : armOK (c, e) = true) :
    (e = [c] ∧ c ≠ '"' ∧ c ≠ '\\') ∨ ∃ x, e = ['\\', x] ∧ simpleTable.lookup x = some c := by
  simp only [armOK, Bool.or_eq_true, Bool.and_eq_true, beq_iff_eq, bne_iff_ne, ne_eq] at h
  rcases h with ⟨⟨h, h1⟩, h2⟩ | h
  · exact .inl ⟨h, h1, h2⟩
  · split at h
    · rename_i b x
      simp only [Bool.and_eq_true, beq_iff_eq] at h
      exact .inr ⟨x, by rw [h.1], h.2⟩
    · cases h

theorem quoteDefaultFmt_eq : Gen.quoteDefaultFmt = fmt02x := by decide
theorem threshold_le : Gen.needsEscapingThreshold ≤ 128 := by decide
theorem escChars_ascii : ∀ c ∈ Gen.needsEscapingChars, c.toNat < 128 := by decide
/-- every character that is active for systemd's splitter (separator, quote, backslash) is escaped -/
theorem active_needsEsc : ∀ c ∈ [' ', '\t', '\n', '\r', '"', '\'', '\\'], needsEsc c = true := by decide
/-- the two characters that are active inside double quotes have arms of their own: neither goes through the default `\xHH` arm -/
theorem default_arm_chars : Gen.quoteArms.lookup '"' ≠ none ∧ Gen.quoteArms.lookup '\\' ≠ none := by decide

theorem classHolds_ascii {cls c} (h : classHolds cls c = true) : c.toNat < 128 := by
  unfold classHolds at h
  split at h
  · simp only [isAsciiControl, Bool.or_eq_true, decide_eq_true_eq, beq_iff_eq] at h; omega
  · split at h
    · simp only [isAsciiWhitespace, Bool.or_eq_true, beq_iff_eq] at h
      rcases h with (((h | h) | h) | h) | h <;> subst h <;> decide
    · simp at h

theorem needsEsc_ascii {c} (h : needsEsc c = true) : c.toNat < 128 := by
  simp only [needsEsc, Bool.and_eq_true, Bool.not_eq_true', decide_eq_false_iff_not, Bool.or_eq_true,
    List.any_eq_true] at h
  rcases h.2 with ⟨cls, _, hc⟩ | hc
  · exact classHolds_ascii hc
  · exact escChars_ascii c (by simpa using hc)

theorem inert_of_not_needsEsc {c : Char} (h : needsEsc c = false) :
    ∀ d ∈ [' ', '\t', '\n', '\r', '"', '\'', '\\'], c ≠ d := by
  intro d hd e; subst e; have := active_needsEsc c hd; simp [h] at this

theorem plain_of_not_needsEsc {c : Char} (h : needsEsc c = false) :
    isQuote c = false ∧ c ≠ '\\' ∧ isSep c = false := by
  have key := inert_of_not_needsEsc h
  simp only [List.forall_mem_cons, List.not_mem_nil] at key
  simp [isQuote, isSep, key]

theorem unhex_hexDigit : ∀ n, n < 16 → unhex (hexDigit n) = some n := by decide

theorem hexHi_lt {c : Char} (h : c.toNat < 128) : c.toNat / 16 < 16 :=
  Nat.div_lt_of_lt_mul (Nat.lt_trans h (by decide))

theorem decode_hex (c : Char) (hlt : c.toNat < 128) (hnz : c.toNat ≠ 0) (t : Str) :
    decode specCfg ('x' :: hexDigit (c.toNat / 16) :: hexDigit (c.toNat % 16) :: t) = some (c, t) := by
  have e1 := unhex_hexDigit (c.toNat / 16) (hexHi_lt hlt)
  have e2 := unhex_hexDigit (c.toNat % 16) (Nat.mod_lt _ (by decide))
  have hl : simpleTable.lookup 'x' = none := by decide
  have hk : numKindOf 'x' = some .x := by decide
  -- `x` is no letter of the table (`hl`) but opens the hex escape (`hk`); the two digits are read as `c / 16 * 16 + c % 16`,
  -- which is `c.toNat` (`Nat.div_add_mod'`), not 0 and below 128, so `specCfg.valid` lets it through
  simp [decode, hl, hk, readNum, readDigits, e1, e2, Nat.div_add_mod', specCfg, hnz, hlt]

/-- no letter occurs twice in the specification table, so every row is the one `lookup` finds -/
theorem decode_simple : ∀ p ∈ simpleTable, ∀ t, decode specCfg (p.1 :: t) = some (p.2, t) :=
  fun p hp => decode_lookup (by revert p; decide)

/-- the three ways `quote_value` writes a character: as it is, by an arm of the `match`, by the `\\xHH` default -/
theorem escChar_cases (c : Char) :
    (needsEsc c = false ∧ escChar c = [c]) ∨ (∃ e, (c, e) ∈ Gen.quoteArms ∧ escChar c = e) ∨
    (c.toNat < 128 ∧ escChar c = ['\\', 'x', hexDigit (c.toNat / 16), hexDigit (c.toNat % 16)]) := by
  unfold escChar
  cases hn : needsEsc c with
  | false => exact .inl ⟨rfl, rfl⟩
  | true =>
    cases hl : Gen.quoteArms.lookup c with
    | some e => exact .inr (.inl ⟨e, lookup_mem _ _ _ hl, rfl⟩)
    | none => exact .inr (.inr ⟨needsEsc_ascii hn, by simp [defaultArm, quoteDefaultFmt_eq]⟩)

theorem escChar_spec (c : Char) (hc : c ≠ '\x00') :
    (escChar c = [c] ∧ c ≠ '"' ∧ c ≠ '\\') ∨
    ∃ e, escChar c = '\\' :: e ∧ ∀ t, decode specCfg (e ++ t) = some (c, t) := by
  rcases escChar_cases c with ⟨hn, h⟩ | ⟨e, hm, h⟩ | ⟨hlt, h⟩
  · exact .inl ⟨h, inert_of_not_needsEsc hn _ (by simp), inert_of_not_needsEsc hn _ (by simp)⟩
  · rcases armOK_cases (quoteArms_sound _ hm) with ⟨rfl, h1, h2⟩ | ⟨x, rfl, hx⟩
    · exact .inl ⟨h, h1, h2⟩
    · exact .inr ⟨[x], h, decode_lookup hx⟩
  · have hnz : c.toNat ≠ 0 := fun e => hc (Char.toNat_inj.mp (by simpa using e))
    exact .inr ⟨_, h, decode_hex c hlt hnz⟩

theorem word_bs {f : Flags} {q : Option Char} {acc s : Str} (hf : f.cunescape = true) {d r}
    (h : decode specCfg s = some (d, r)) : Spec.word f q true acc s = Spec.word f q false (d :: acc) r := by
  cases s with
  | nil => simp [decode] at h
  | cons c t =>
    rw [Spec.word]; simp only [hf, if_true]
    split <;> rename_i heq <;> rw [h] at heq <;> cases heq
    rfl

theorem word_escChar (c : Char) (hc : c ≠ '\x00') (acc t : Str) :
    Spec.word execFlags (some '"') false acc (escChar c ++ t) = Spec.word execFlags (some '"') false (c :: acc) t := by
  rcases escChar_spec c hc with ⟨he, h1, h2⟩ | ⟨e, he, hd⟩
  · rw [he, List.singleton_append, Spec.word]; simp [h1, h2, execFlags]
  · rw [he, List.cons_append, Spec.word]
    simp only [show ('\\' == '"') = false by decide, Bool.false_eq_true, if_false, beq_self_eq_true, ef_retain,
      Bool.not_false, Bool.and_self, if_true]
    exact word_bs rfl (hd t)

theorem quoteValue_cons (c : Char) (w : Str) : quoteValue (c :: w) = escChar c ++ quoteValue w := List.flatMap_cons

theorem word_quoteValue (w : Str) (hw : ∀ c ∈ w, c ≠ '\x00') (acc t : Str) :
    Spec.word execFlags (some '"') false acc (quoteValue w ++ t)
      = Spec.word execFlags (some '"') false (w.reverse ++ acc) t := by
  induction w generalizing acc with
  | nil => rfl
  | cons c w ih =>
    rw [quoteValue_cons, List.append_assoc, word_escChar c (hw c (by simp)), ih (fun d hd => hw d (by simp [hd]))]
    simp

theorem word_plain (w : Str) (hw : ∀ c ∈ w, needsEsc c = false) (acc t : Str) :
    Spec.word execFlags none false acc (w ++ t) = Spec.word execFlags none false (w.reverse ++ acc) t := by
  induction w generalizing acc with
  | nil => rfl
  | cons c w ih =>
    obtain ⟨h1, h2, h3⟩ := plain_of_not_needsEsc (hw c (by simp))
    rw [List.cons_append, Spec.word]
    simp only [h1, h3, beq_eq_false_iff_ne.mpr h2, Bool.false_and, Bool.false_eq_true, if_false]
    rw [ih (fun d hd => hw d (by simp [hd])), List.reverse_cons, List.append_assoc, List.singleton_append]

theorem quoteValue_plain (w : Str) (h : ∀ c ∈ w, needsEsc c = false) : quoteValue w = w := by
  induction w with
  | nil => rfl
  | cons c w ih => rw [quoteValue_cons, ih fun d hd => h d (by simp [hd]), escChar, h c (by simp)]; rfl

theorem quoteWord_cases (w : Str) :
    quoteWord w = '"' :: (quoteValue w ++ ['"']) ∨
    ∃ c r, w = c :: r ∧ (∀ d ∈ w, needsEsc d = false) ∧ quoteWord w = w := by
  unfold quoteWord; split
  · exact .inl rfl
  · rename_i h
    simp only [Bool.or_eq_true, not_or, Bool.not_eq_true, List.any_eq_false] at h
    cases w with
    | nil => simp at h
    | cons c r => exact .inr ⟨c, r, rfl, fun d hd => by simpa using h.2 d hd, rfl⟩

theorem quoteWord_ne_nil (w : Str) : quoteWord w ≠ [] := by
  rcases quoteWord_cases w with h | ⟨c, r, rfl, _, h⟩ <;> rw [h] <;> simp

theorem dropSeps_quoteWord (w t : Str) : dropSeps (quoteWord w ++ t) = quoteWord w ++ t := by
  rcases quoteWord_cases w with h | ⟨c, r, rfl, hall, h⟩ <;> rw [h]
  · simp [dropSeps, isSep]
  · simp [dropSeps, (plain_of_not_needsEsc (hall c (by simp))).2.2]

theorem extractFirst_nonsep {f : Flags} {c : Char} {r : Str} (h : isSep c = false) :
    Spec.extractFirst f (c :: r) = Spec.word f none false [] (c :: r) := by
  simp [Spec.extractFirst, dropSeps, h]

/-- one rendered word followed by `t` is read back as that word, leaving `t` to the end-of-word rule -/
theorem word_quoteWord (w : Str) (hw : ∀ c ∈ w, c ≠ '\x00') (t : Str) :
    Spec.extractFirst execFlags (quoteWord w ++ t) = Spec.word execFlags none false w.reverse t := by
  rcases quoteWord_cases w with h | ⟨c, r, rfl, hall, h⟩ <;> rw [h]
  · -- quoted: the opening quote, the escaped characters, the closing quote
    simp only [List.cons_append, List.append_assoc, List.nil_append]
    rw [extractFirst_nonsep (by decide)]
    rw [Spec.word]; simp only [isQuote, ef_unquote, beq_self_eq_true, Bool.true_or, Bool.and_self, if_true]
    rw [word_quoteValue w hw]
    rw [Spec.word]; simp
  · rw [List.cons_append, extractFirst_nonsep (plain_of_not_needsEsc (hall c (by simp))).2.2,
      ← List.cons_append, word_plain (c :: r) hall]
    simp

theorem joinSp_cons (w : Str) (ws : List Str) : joinSp (w :: ws) = w ++ ws.flatMap (' ' :: ·) := by
  induction ws generalizing w with
  | nil => simp [joinSp]
  | cons w' ws ih => rw [joinSp, ih, List.flatMap_cons, List.cons_append]

theorem mem_joinSp {c : Char} {ws : List Str} (h : c ∈ joinSp ws) : c = ' ' ∨ ∃ w ∈ ws, c ∈ w := by
  cases ws with
  | nil => cases h
  | cons w ws =>
    rw [joinSp_cons, List.mem_append, List.mem_flatMap] at h
    rcases h with hm | ⟨x, hx, hm⟩
    · exact .inr ⟨w, List.mem_cons_self, hm⟩
    · exact (List.mem_cons.mp hm).imp_right fun hm => ⟨x, List.mem_cons_of_mem _ hx, hm⟩

theorem quoteWords_cons (w : Str) (ws : List Str) :
    quoteWords (w :: ws) = quoteWord w ++ ws.flatMap fun w => ' ' :: quoteWord w := by
  rw [quoteWords, List.map_cons, joinSp_cons, List.flatMap_map]

theorem word_end (acc : Str) (ws : List Str) :
    Spec.word execFlags none false acc (ws.flatMap fun w => ' ' :: quoteWord w) = .word acc.reverse (quoteWords ws) := by
  cases ws with
  | nil => rw [List.flatMap_nil, Spec.word]; rfl
  | cons w ws =>
    -- the blank ends the word; of the separators skipped after it the next rendered word has none in front
    rw [List.flatMap_cons, List.cons_append, Spec.word]
    simp [isQuote, isSep, execFlags, dropSeps_quoteWord, quoteWords_cons]

theorem collect_quoteWords (ws : List Str) (hw : ∀ w ∈ ws, ∀ c ∈ w, c ≠ '\x00') :
    ∀ n, ws.length ≤ n → collect (Spec.extractFirst execFlags) (n + 1) (quoteWords ws) = some ws := by
  induction ws with
  | nil => intro n _; rfl
  | cons w ws ih =>
    intro n hn
    cases n with
    | zero => cases hn
    | succ n =>
      rw [collect, quoteWords_cons, word_quoteWord w (hw w List.mem_cons_self), word_end, List.reverse_reverse]
      simp only
      rw [ih (fun v hv => hw v (List.mem_cons_of_mem _ hv)) n (Nat.le_of_succ_le_succ hn)]; rfl

theorem quoteWords_length (ws : List Str) : ws.length ≤ (quoteWords ws).length := by
  induction ws with
  | nil => exact Nat.zero_le _
  | cons w ws ih =>
    cases ws with
    | nil => exact List.length_pos_iff.mpr (quoteWord_ne_nil w)
    | cons w' ws =>
      simp only [quoteWords, List.map_cons, joinSp, List.length_append, List.length_cons] at ih ⊢
      omega

/-- splitting the rendered command line of NUL-free arguments by systemd's rules (extract_first_word with
    UNQUOTE|CUNESCAPE, iterated) gives back exactly the argument list -/
theorem splitAll_quoteWords (ws : List Str) (hw : ∀ w ∈ ws, ∀ c ∈ w, c ≠ '\x00') :
    splitAll execFlags (quoteWords ws) = some ws :=
  collect_quoteWords ws hw _ (quoteWords_length ws)

theorem quoteArms_no_newline : ∀ p ∈ Gen.quoteArms, '\n' ∉ p.2 := by decide

theorem hexDigit_ne_newline : ∀ n, n < 16 → hexDigit n ≠ '\n' := by decide

/-- a value stored with `add`/`set`/`prepend` (escaped by `quote_value`) never contains a newline -/
theorem C06_quoteValue_no_newline (s : Str) : '\n' ∉ quoteValue s := by
  unfold quoteValue
  simp only [List.mem_flatMap, not_exists, not_and]
  intro c _
  rcases escChar_cases c with ⟨hn, h⟩ | ⟨e, hm, h⟩ | ⟨hlt, h⟩ <;> rw [h]
  · simpa using (inert_of_not_needsEsc hn _ (by simp)).symm
  · exact quoteArms_no_newline _ hm
  · simp only [List.mem_cons, List.not_mem_nil, or_false, not_or]
    exact ⟨by decide, by decide, (hexDigit_ne_newline _ (hexHi_lt hlt)).symm,
      (hexDigit_ne_newline _ (Nat.mod_lt _ (by decide))).symm⟩

/-- an Exec line rendered by `quote_words` never contains a newline, whatever the arguments are -/
theorem C06_quoteWords_no_newline (ws : List Str) : '\n' ∉ quoteWords ws := by
  intro hm
  obtain ⟨w, hw, hm⟩ := (mem_joinSp hm).resolve_left (by decide)
  obtain ⟨x, _, rfl⟩ := List.mem_map.mp hw
  rcases quoteWord_cases x with h | ⟨_, _, _, hall, h⟩ <;> rw [h] at hm
  · simp only [List.mem_cons, List.mem_append, List.not_mem_nil, or_false] at hm
    exact hm.elim (by decide) fun hm => hm.elim (C06_quoteValue_no_newline x) (by decide)
  · exact inert_of_not_needsEsc (hall _ hm) _ (by simp) rfl

end P
