import QM.ConvArgs
/-! Every converter changes the service only by the generator's writes (`Built`, QM/ConvBuilt.lean). -/
namespace Cv
open MM

theorem frame_fromImage {E : Env} {path : Str} {u svc : SUnit} {r : Str} (h : fromImage E path u = .ok (svc, r)) :
    Built addPairs (preService path u (s "Image") (s "X-Image")) svc := by
  rw [fromImage_ok E path u svc r h]
  exact .after (built_oneShot _ _) <| .raw "ExecStart" _ <| .addS _ _ _ <| .refl _

theorem frame_fromVolume {E : Env} {path : Str} {u svc : SUnit} {n : Str} (h : fromVolume E path u = .ok (svc, n)) :
    Built addPairs (preService path u (s "Volume") (s "X-Volume")) svc := by
  unfold fromVolume at h
  simp only [bind_ok] at h
  -- the two key checks (a `()` and its equation each), then a name and an equation per bind: `volumeOpts`, the `addRawExec`
  obtain ⟨_, _, _, _, x, hx, s1, hexec, hfin⟩ := h
  obtain ⟨rfl, -⟩ := Prod.mk.inj (Except.ok.inj hfin)
  exact .after (built_oneShot _ _) <| .addRawExec hexec <| .after ((volumeOpts_along ..).built hx) <| .addS _ _ _ <| .refl _

theorem frame_fromNetwork {E : Env} {path : Str} {u svc : SUnit} {n : Str} (h : fromNetwork E path u = .ok (svc, n)) :
    Built addPairs (preService path u (s "Network") (s "X-Network")) svc := by
  unfold fromNetwork at h
  simp only [bind_ok] at h
  -- the two key checks, `networkSubnets` (`_ _`), the `addRawExec`
  obtain ⟨_, _, _, _, _, _, s1, hexec, hfin⟩ := h
  obtain ⟨rfl, -⟩ := Prod.mk.inj (Except.ok.inj hfin)
  exact .after (built_oneShot _ _) <| .addRawExec hexec <| .addS _ _ _ <| .refl _

/-- a pod's service: the mount dependency, the member loop, and from there on the common writes only -/
theorem tail_fromPod {E : Env} {path : Str} {u svc : SUnit} {cs : List Str} (h : fromPod E path u cs = .ok svc) :
    Built addPairs (addMembers cs (addS (preService path u (s "Pod") (s "X-Pod")) "Unit" "RequiresMountsFor" (s "%t/containers"))) svc := by
  unfold fromPod at h
  simp only [bind_ok] at h
  -- the two key checks; then per bind: ExecStart, ExecStop, ExecStopPost, the user mappings (`_ _`), networks, volumes, ExecStartPre
  obtain ⟨_, _, _, _, sst, hstart, ssp, hstop, spp, hstoppost, _, _, nets, hnets, vols, hvols, sx, hpre, hfin⟩ := h
  obtain rfl := Except.ok.inj hfin
  exact .addS _ _ _ <| .addS _ _ _ <| .addS _ _ _ <| .addS _ _ _ <| .addRawExec hpre <| .after ((handleVolumes_along ..).built hvols) <|
    .after ((handleNetworks_along ..).built hnets) <| .addRawExec hstoppost <| .addRawExec hstop <| .addRawExec hstart <| .setS_if _ _ _ _ <| .refl _

theorem frame_fromPod {E : Env} {path : Str} {u svc : SUnit} {cs : List Str} (h : fromPod E path u cs = .ok svc) :
    Built allPairs (preService path u (s "Pod") (s "X-Pod")) svc :=
  .after (tail_fromPod h).all <| .after (built_addMembers cs _) <| .addS _ _ _ <| .refl _

theorem frame_fromKube {E : Env} {path : Str} {u svc : SUnit} (h : fromKube E path u = .ok svc) :
    Built addPairs (preService path u (s "Kube") (s "X-Kube")) svc := by
  unfold fromKube at h
  simp only [bind_ok, guard_ok] at h
  -- the two key checks, the guard on Yaml= (`-`); then per bind: `killMode`, the `match` on Type=, the user mappings (`_ _`), networks,
  -- ExecStart, ExecStopPost, the working directory
  obtain ⟨_, _, _, _, -, skm, hkm, sty, hty, _, _, nets, hnets, sst, hstart, ssp, hstoppost, wd, hwd, hfin⟩ := h
  obtain rfl := Except.ok.inj hfin
  have aty : Built addPairs (addS (addS skm "Service" "Environment" (s "PODMAN_SYSTEMD_UNIT=%n")) "Unit" "RequiresMountsFor" (s "%t/containers")) sty := by
    split at hty
    · cases hty; exact .addS _ _ _ <| .addS _ _ _ <| .refl _
    · split at hty <;> cases hty
      · exact .addS _ _ _ <| .addS _ _ _ <| .refl _
      · exact .refl _
  exact .after ((handleSetWorkingDirectory_along ..).built hwd) <| .addRawExec hstoppost <| .addRawExec hstart <| .after ((handleNetworks_along ..).built hnets) <|
    .setS_if _ _ _ _ <| .after aty <| .addS _ _ _ <| .addS _ _ _ <| built_killMode hkm

theorem frame_fromBuild {E : Env} {path : Str} {u svc : SUnit} (h : fromBuild E path u = .ok svc) :
    Built addPairs (preOf (buildStart path u) (s "Build") (s "X-Build")) svc := by
  unfold fromBuild at h
  simp only [bind_ok, guard_ok] at h
  -- the unit's own table entry and its lookup, the guard on its resource name (`-`), the two key checks (a `()` and its equation each);
  -- then per bind: networks, volumes, the working directory, the `match` on WorkingDirectory= / File= and the `tail` (`_ _` each), ExecStart
  obtain ⟨_, _, -, _, _, _, _, nets, hnets, vols, hvols, wd, hwd, _, _, _, _, sx, hexec, hfin⟩ := h
  obtain rfl := Except.ok.inj hfin
  exact .after (built_oneShot _ _) <| .addRawExec hexec <| .after ((handleSetWorkingDirectory_along ..).built hwd) <| .after ((handleVolumes_along ..).built hvols) <|
    (handleNetworks_along ..).built hnets

theorem frame_fromContainer {E : Env} {path : Str} {u svc : SUnit} {link : Option (Str × Str)}
    (h : fromContainer E path u = some (.ok (svc, link))) :
    Built addPairs (preService path u (s "Container") (s "X-Container")) svc := by
  unfold fromContainer at h
  simp only [Option.ite_none_left_eq_some, Option.some.injEq, bind_ok, guard_ok] at h
  -- in the order of `fromContainer`: every `Mount=` is inside the model (`-`), the unit's own table entry `self` and its lookup, the two
  -- key checks (a `()` and its equation each), the guards on Image= / Rootfs= (`-`, `-`); then a name and an equation per bind — unnamed:
  -- `handleUser`, the user mappings, the exposed ports
  obtain ⟨-, self, _, _, _, _, _, -, -, img, himg, skm, hkm, sst, hstop, ssp, hstoppost, nets, hnets, cmd, hcmd, _, _, _, _,
    vols, hvols, _, _, mnts, hmnts, pod, hpod, sx, hexec, hfin⟩ := h
  obtain ⟨rfl, -⟩ := Prod.mk.inj (Except.ok.inj hfin)
  exact .addRawExec hexec <| .after ((handlePod_ok hpod).2.1) <| .after ((mounts_along ..).built hmnts) <|
    .after ((handleVolumes_along ..).built hvols) <| .setS_if _ _ _ _ <| .after (typeAndNotify_block _ _ _ _ _ hcmd).2 <|
    .after ((handleNetworks_along ..).built hnets) <|
    .addS _ _ _ <| .addRawExec hstoppost <| .addRawExec hstop <| .addS _ _ _ <| .after (built_killMode hkm) <| .addS _ _ _ <|
    (image_name E u (s "Container") _ img himg).2

end Cv
