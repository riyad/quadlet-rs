/-! Insertion sort.  `Cv.insertByPrio` / `Cv.sortByPrio` (units by priority, QM/Proc.lean) and `Cv.insertSorted` /
    `Cv.sortConfs` (drop-ins by name, QM/Fs.lean) are the two copies of it the lemmas are used for (a third, `Drv.insertSorted` /
    `Drv.sortKV`, QM/Driver.lean, only orders what the driver prints); what is proved here holds of every function `ins` with the
    two equations of an insertion — before the first element that `x` is `r`-related to. -/
namespace InsertionSort

variable {α : Type} {r : α → α → Prop} [DecidableRel r] {ins : α → List α → List α}

theorem ins_perm (h0 : ∀ x, ins x [] = [x]) (h1 : ∀ x y ys, ins x (y :: ys) = if r x y then x :: y :: ys else y :: ins x ys)
    (x : α) (l : List α) : (ins x l).Perm (x :: l) := by
  induction l with
  | nil => rw [h0]
  | cons y ys ih =>
    rw [h1]
    split
    · exact .refl _
    · exact (ih.cons y).trans (.swap x y ys)

theorem ins_sorted (h0 : ∀ x, ins x [] = [x]) (h1 : ∀ x y ys, ins x (y :: ys) = if r x y then x :: y :: ys else y :: ins x ys)
    {le : α → α → Prop} (trans : ∀ a b c, le a b → le b c → le a c) (hr : ∀ a b, r a b → le a b) (hn : ∀ a b, ¬r a b → le b a)
    (x : α) (l : List α) (h : l.Pairwise le) : (ins x l).Pairwise le := by
  induction l with
  | nil => rw [h0]; exact List.pairwise_singleton _ _
  | cons y ys ih =>
    have hy := List.pairwise_cons.mp h
    rw [h1]
    split
    · rename_i hxy
      exact List.pairwise_cons.mpr ⟨fun z hz => (List.mem_cons.mp hz).elim (· ▸ hr _ _ hxy) fun hz => trans _ _ _ (hr _ _ hxy) (hy.1 z hz), h⟩
    · rename_i hxy
      exact List.pairwise_cons.mpr
        ⟨fun z hz => (List.mem_cons.mp ((ins_perm h0 h1 x ys).subset hz)).elim (· ▸ hn _ _ hxy) (hy.1 z), ih hy.2⟩

theorem sort_perm (hp : ∀ x l, (ins x l).Perm (x :: l)) (l : List α) : (l.foldl (fun acc x => ins x acc) []).Perm l := by
  suffices ∀ acc, (l.foldl (fun acc x => ins x acc) acc).Perm (l ++ acc) by simpa using this []
  induction l with
  | nil => exact fun _ => .refl _
  | cons x l ih => exact fun acc => (ih _).trans ((List.Perm.append_left l (hp x acc)).trans List.perm_middle)

theorem sort_sorted {le : α → α → Prop} (hs : ∀ x l, l.Pairwise le → (ins x l).Pairwise le) (l : List α) :
    (l.foldl (fun acc x => ins x acc) []).Pairwise le :=
  List.foldlRecOn l _ List.Pairwise.nil fun acc h x _ => hs x acc h

end InsertionSort
