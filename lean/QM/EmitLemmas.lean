import QM.LookupLemmas
import QM.Conv
/-! Frame and add-key lemmas for the table-driven emitters of the converters
    (`lookup_and_add_string`, `lookup_and_add_all_strings`, `lookup_and_add_bool`): an emitter row reads
    only the assignment history of its own key. -/
namespace Cv
open MM

def rowString (u : SUnit) (sec : Str) (r : Str × Str) : List Str :=
  match lookup u sec r.1 with
  | some v => if v.isEmpty then [] else [r.2, v]
  | none => []
def rowAll (u : SUnit) (sec : Str) (r : Str × Str) : List Str := (lookupAll u sec r.1).flatMap fun v => [r.2, v]
def rowBool (u : SUnit) (sec : Str) (r : Str × Str) : List Str :=
  match lookupBool u sec r.1 with
  | some true => [r.2]
  | some false => [r.2 ++ s "=false"]
  | none => []

theorem addString_eq (u : SUnit) (sec : Str) (rows : List (Str × Str)) : addString u sec rows = rows.flatMap (rowString u sec) := rfl
theorem addAllStrings_eq (u : SUnit) (sec : Str) (rows : List (Str × Str)) : addAllStrings u sec rows = rows.flatMap (rowAll u sec) := rfl
theorem addBool_eq (u : SUnit) (sec : Str) (rows : List (Str × Str)) : addBool u sec rows = rows.flatMap (rowBool u sec) := rfl

theorem rowString_congr {u u' : SUnit} {sec : Str} {r : Str × Str} (h : assignments u sec r.1 = assignments u' sec r.1) :
    rowString u sec r = rowString u' sec r := by unfold rowString; rw [lookup_congr h]
theorem rowAll_congr {u u' : SUnit} {sec : Str} {r : Str × Str} (h : assignments u sec r.1 = assignments u' sec r.1) :
    rowAll u sec r = rowAll u' sec r := by unfold rowAll; rw [lookupAll_congr h]
theorem rowBool_congr {u u' : SUnit} {sec : Str} {r : Str × Str} (h : assignments u sec r.1 = assignments u' sec r.1) :
    rowBool u sec r = rowBool u' sec r := by unfold rowBool; rw [lookupBool_congr h]

theorem flatMap_congr' {α β} (f g : α → List β) (l : List α) (h : ∀ x ∈ l, f x = g x) : l.flatMap f = l.flatMap g :=
  congrArg List.flatten (List.map_congr_left h)

theorem assignments_addEntry_other (u : SUnit) (sec k raw : Str) {k' : Str} (h : k' ≠ k) :
    assignments (addEntry u sec k raw) sec k' = assignments u sec k' := by
  rw [assignments_addEntry, if_neg (fun e => h e.2.symm), List.append_nil]

theorem rows_other_key (row : SUnit → Str → Str × Str → List Str)
    (hcongr : ∀ {u u' : SUnit} {sec : Str} {r : Str × Str}, assignments u sec r.1 = assignments u' sec r.1 → row u sec r = row u' sec r)
    (u : SUnit) (sec k raw : Str) (l : List (Str × Str)) (hl : ∀ r ∈ l, r.1 ≠ k) :
    l.flatMap (row (addEntry u sec k raw) sec) = l.flatMap (row u sec) :=
  flatMap_congr' _ _ l fun r hr => hcongr (assignments_addEntry_other u sec k raw (hl r hr))

theorem rows_add_key (row : SUnit → Str → Str × Str → List Str)
    (hcongr : ∀ {u u' : SUnit} {sec : Str} {r : Str × Str}, assignments u sec r.1 = assignments u' sec r.1 → row u sec r = row u' sec r)
    (u : SUnit) (sec k raw : Str) (pre post : List (Str × Str)) (f : Str)
    (hpre : ∀ r ∈ pre, r.1 ≠ k) (hpost : ∀ r ∈ post, r.1 ≠ k) :
    (pre ++ (k, f) :: post).flatMap (row (addEntry u sec k raw) sec)
      = pre.flatMap (row u sec) ++ row (addEntry u sec k raw) sec (k, f) ++ post.flatMap (row u sec) := by
  rw [List.flatMap_append, List.flatMap_cons, rows_other_key row hcongr u sec k raw pre hpre,
    rows_other_key row hcongr u sec k raw post hpost, List.append_assoc]

theorem rowString_some {u : SUnit} {sec k f v : Str} (hv : lookup u sec k = some v) (hne : v.isEmpty = false) :
    rowString u sec (k, f) = [f, v] := by
  simp only [rowString, hv, hne]; rfl

theorem rowString_infix (u : SUnit) (sec : Str) (rows : List (Str × Str)) (k f v : Str) (hr : (k, f) ∈ rows)
    (hv : lookup u sec k = some v) (hne : v.isEmpty = false) : [f, v] <:+: addString u sec rows :=
  rowString_some hv hne ▸ List.infix_of_mem_flatten (List.mem_map_of_mem hr)

end Cv
