import QM.MMap
/-! More about the ordered-multimap model: what `mergeFrom` does to `entriesOf`; the list of section names (`names`, `ins`);
    two maps with the same distinct names and the same entries are equal. -/
namespace MM

def names (u : SUnit) : List Str := u.map Prod.fst

theorem lookup_isSome_iff_mem (u : SUnit) (s : Str) : (u.lookup s).isSome = true ↔ s ∈ names u := by
  simp only [List.lookup_isSome_iff, names, List.mem_map, beq_iff_eq, eq_comm (a := s)]

theorem lookup_none_of_not_mem (u : SUnit) (sec : Str) (h : sec ∉ u.map Prod.fst) : u.lookup sec = none :=
  Option.not_isSome_iff_eq_none.mp fun hs => h ((lookup_isSome_iff_mem u sec).mp hs)

theorem entriesOf_of_not_mem (u : SUnit) (s : Str) (h : s ∉ names u) : entriesOf u s = [] := by
  rw [entriesOf, lookup_none_of_not_mem u s h]; rfl

theorem exists_mem_of_mem_entriesOf {u : SUnit} {s : Str} {e : Str × Str} (h : e ∈ entriesOf u s) :
    ∃ es, (s, es) ∈ u ∧ e ∈ es := by
  unfold entriesOf at h
  cases hl : u.lookup s with
  | none => simp [hl] at h
  | some es =>
    obtain ⟨l₁, l₂, rfl, _⟩ := List.lookup_eq_some_iff.mp hl
    exact ⟨es, by simp, by simpa [hl] using h⟩

theorem foldl_appends {σ α β : Type} (obs : σ → List β) (op : σ → α → σ) (g : α → List β) (l : List α)
    (hop : ∀ u, ∀ a ∈ l, obs (op u a) = obs u ++ g a) (u : σ) :
    obs (l.foldl op u) = obs u ++ l.flatMap g := by
  induction l generalizing u with
  | nil => simp
  | cons a l ih =>
    rw [List.foldl_cons, ih (fun u b hb => hop u b (List.mem_cons_of_mem _ hb)), hop u a List.mem_cons_self, List.flatMap_cons,
      List.append_assoc]

def entriesAt (o : SUnit) (s : Str) : Entries := o.flatMap fun p => if s = p.1 then p.2 else []

theorem entriesAt_of_nodup (o : SUnit) (hnd : (names o).Nodup) (s : Str) : entriesAt o s = entriesOf o s := by
  induction o with
  | nil => rfl
  | cons p o ih =>
    obtain ⟨a, es⟩ := p
    have hnd := List.nodup_cons.mp hnd
    rw [entriesAt, List.flatMap_cons, ← entriesAt, ih hnd.2, entriesOf_cons]
    split
    · rw [‹s = a›, entriesOf_of_not_mem o a hnd.1, List.append_nil]
    · rfl

theorem entriesOf_mergeFrom_all (v o : SUnit) (s : Str) :
    entriesOf (mergeFrom v o) s = entriesOf v s ++ entriesAt o s :=
  foldl_appends (entriesOf · s) _ _ o (fun u p _ => by rw [entriesOf_addAll]; split <;> simp [*]) v

theorem entriesOf_mergeFrom (v o : SUnit) (hnd : (o.map Prod.fst).Nodup) (s : Str) :
    entriesOf (mergeFrom v o) s = entriesOf v s ++ entriesOf o s := by
  rw [entriesOf_mergeFrom_all, entriesAt_of_nodup o hnd]

/-- `n` is put at the end unless it is there already: what `modifySection` and the reader's `addEntries` do to the list of section names -/
def ins (l : List Str) (n : Str) : List Str := if n ∈ l then l else l ++ [n]

theorem mem_ins {l : List Str} {n m : Str} : m ∈ ins l n ↔ m ∈ l ∨ m = n := by
  unfold ins; split
  · exact ⟨Or.inl, fun h => h.elim id (· ▸ ‹_›)⟩
  · simp

theorem nodup_ins {l : List Str} (n : Str) (h : l.Nodup) : (ins l n).Nodup := by
  unfold ins; split
  · exact h
  · rename_i hn
    exact List.nodup_append.mpr ⟨h, by simp, fun a ha b hb e => hn (by simp at hb; rw [← hb, ← e]; exact ha)⟩

theorem mem_foldl_ins {l base : List Str} {m : Str} : m ∈ l.foldl ins base ↔ m ∈ base ∨ m ∈ l := by
  induction l generalizing base with
  | nil => simp
  | cons n l ih => rw [List.foldl_cons, ih, mem_ins, List.mem_cons, or_assoc]

theorem nodup_foldl_ins (l : List Str) {base : List Str} (h : base.Nodup) : (l.foldl ins base).Nodup :=
  List.foldlRecOn l ins (motive := List.Nodup) h fun _ hb n _ => nodup_ins n hb

theorem foldl_ins_ins (acc base : List Str) (n : Str) : (ins acc n).foldl ins base = ins (acc.foldl ins base) n := by
  by_cases h : n ∈ acc
  · rw [ins, if_pos h, ins, if_pos (mem_foldl_ins.mpr (Or.inr h))]
  · rw [ins, if_neg h, List.foldl_append]; rfl

theorem foldl_ins_foldl (l acc base : List Str) : (l.foldl ins acc).foldl ins base = l.foldl ins (acc.foldl ins base) := by
  induction l generalizing acc with
  | nil => rfl
  | cons n l ih => rw [List.foldl_cons, ih, foldl_ins_ins, List.foldl_cons]

theorem names_modifySection (u : SUnit) (n : Str) (f : Entries → Entries) :
    names (modifySection u n f) = ins (names u) n := by
  induction u with
  | nil => simp [modifySection, names, ins]
  | cons p u ih =>
    obtain ⟨s, es⟩ := p
    by_cases h : s = n
    · subst h; simp [modifySection, names, ins]
    · have hb : (s == n) = false := by simpa using h
      -- as `s ≠ n`, `ins (s :: names u) n = s :: ins (names u) n`, on either branch of `ins`
      simp only [names, ins, modifySection, hb, Bool.false_eq_true, if_false, List.map_cons, List.mem_cons, Ne.symm h,
        false_or] at ih ⊢
      rw [ih]; split <;> simp [*]

theorem names_addAll (u : SUnit) (n : Str) (es : Entries) (h : es ≠ []) : names (addAll u n es) = ins (names u) n := by
  obtain ⟨e, es, rfl⟩ := List.exists_cons_of_ne_nil h
  rw [addAll_cons, names_modifySection]

theorem ext_of_nodup : ∀ (a b : SUnit), names a = names b → (names a).Nodup → (∀ s, entriesOf a s = entriesOf b s) → a = b
  | [], [], _, _, _ => rfl
  | [], _ :: _, hn, _, _ => by simp [names] at hn
  | _ :: _, [], hn, _, _ => by simp [names] at hn
  | (n, es) :: a, (n', es') :: b, hn, hd, he => by
    simp only [names, List.map_cons, List.cons.injEq, List.nodup_cons] at hn hd
    obtain ⟨rfl, hn⟩ := hn
    have h0 := he n
    rw [entriesOf_cons, entriesOf_cons, if_pos rfl, if_pos rfl] at h0
    subst h0
    rw [ext_of_nodup a b hn hd.2 fun s => ?_]
    by_cases hs : s = n
    · subst hs; rw [entriesOf_of_not_mem a s hd.1, entriesOf_of_not_mem b s (by rw [names, ← hn]; exact hd.1)]
    · simpa only [entriesOf_cons, if_neg hs] using he s

theorem entriesOf_merged (u : SUnit) (hnd : (u.map Prod.fst).Nodup) (S : Str) : entriesOf (mergeFrom [] u) S = entriesOf u S := by
  rw [entriesOf_mergeFrom [] u hnd]; rfl

theorem mem_rename {v : SUnit} {frm to S : Str} {e : Str × Str} (hne : frm ≠ to) (he : e ∈ entriesOf (renameSection v frm to) S) :
    e ∈ entriesOf v S ∨ S = to ∧ e ∈ entriesOf v frm := by
  rw [entriesOf_rename _ _ _ _ hne] at he
  split at he
  · cases he
  · split at he
    · exact (List.mem_append.mp he).imp (‹S = to› ▸ id) fun h => ⟨‹S = to›, h⟩
    · exact .inl he

def NE (M : SUnit) : Prop := ∀ p ∈ M, p.2 ≠ []

def mstep (u : SUnit) (p : Str × Entries) : SUnit := addAll u p.1 p.2

theorem mergeFrom_eq (u M : SUnit) : mergeFrom u M = M.foldl mstep u := rfl

theorem names_mergeFrom (u M : SUnit) (hne : NE M) : names (mergeFrom u M) = (names M).foldl ins (names u) := by
  induction M generalizing u with
  | nil => rfl
  | cons p M ih =>
    rw [mergeFrom, List.foldl_cons, ← mergeFrom, ih _ fun q hq => hne q (List.mem_cons_of_mem _ hq),
      names_addAll u p.1 p.2 (hne p List.mem_cons_self)]; rfl

end MM
