import QM.ConvBuilt
/-! The handlers that only write, and what the converters start from, change the service only by the generator's writes (`Built`). -/
namespace Cv
open MM

/-- the one-shot settings are `set` only: whatever `M` is -/
theorem built_oneShot {M : List (Str × Str)} (svc : SUnit) (remain : Bool) : Built M svc (oneShot svc remain) :=
  .setS_if _ _ _ _ <| .setS_if _ _ _ _ <| .setS_if _ _ _ _ <| .refl _

theorem entriesOf_oneShot_ne (svc : SUnit) (remain : Bool) (S : Str) (h : S ≠ s "Service") :
    entriesOf (oneShot svc remain) S = entriesOf svc S :=
  (built_oneShot (M := []) svc remain).entriesOf_eq (fun _ hp => nomatch hp) h

theorem built_killMode {u svc svc' : SUnit} (h : killMode u svc = .ok svc') : Built addPairs svc svc' := by
  unfold killMode at h
  split at h
  · cases h; exact .setS _ _ _ (.refl _)
  · split at h
    · cases h; exact .refl _
    · cases h

/-- what the converters do first: start from the merged unit, rename the unit's own section and [Quadlet] -/
def preOf (start : SUnit) (own xown : Str) : SUnit :=
  renameSection (renameSection start own xown) (s "Quadlet") (s "X-Quadlet")
def preService (path : Str) (u : SUnit) (own xown : Str) : SUnit := preOf (startService path u) own xown

/-- what the .build converter starts from (the mount dependency is added before SourcePath there) -/
def buildStart (path : Str) (u : SUnit) : SUnit :=
  if path.isEmpty then addS (defaultDeps (mergeFrom [] u)) "Unit" "RequiresMountsFor" (s "%t/containers")
  else addS (addS (defaultDeps (mergeFrom [] u)) "Unit" "RequiresMountsFor" (s "%t/containers")) "Unit" "SourcePath" path

theorem built_defaultDeps (svc : SUnit) : Built allPairs svc (defaultDeps svc) :=
  .ite (fun _ => .prependS _ _ _ <| .prependS _ _ _ <| .refl _) (fun _ => .refl _)

theorem built_startService (path : Str) (u : SUnit) : Built allPairs (mergeFrom [] u) (startService path u) :=
  .ite (fun _ => built_defaultDeps _) (fun _ => .addS _ _ _ (built_defaultDeps _))

theorem built_buildStart (path : Str) (u : SUnit) : Built allPairs (mergeFrom [] u) (buildStart path u) :=
  .ite (fun _ => .addS _ _ _ (built_defaultDeps _)) (fun _ => .addS _ _ _ <| .addS _ _ _ (built_defaultDeps _))

/-- the member loop of a pod: one `Wants=` and one `Before=` per container -/
def addMembers (cs : List Str) (svc : SUnit) : SUnit :=
  cs.foldl (fun svc c => addS (addS svc "Unit" "Wants" c) "Unit" "Before" c) svc

theorem built_addMembers (cs : List Str) (svc : SUnit) : Built allPairs svc (addMembers cs svc) := by
  unfold addMembers
  induction cs generalizing svc with
  | nil => exact .refl _
  | cons c cs ih => exact .after (ih _) <| .addS _ _ _ <| .addS _ _ _ <| .refl _

end Cv
