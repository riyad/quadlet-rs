import QM.Esc
/-! Agreement of the repository's escape decoders with systemd's cunescape_one: a decoder whose table extends the
    specification's, does not shadow the numeric escapes and accepts at least the specification's values decodes
    everything the specification decodes, to the same result (`decode_of_spec`). -/
namespace P

theorem lookup_mem {α β} [BEq α] [LawfulBEq α] (l : List (α × β)) (a : α) (b : β)
    (h : l.lookup a = some b) : (a, b) ∈ l := by
  obtain ⟨l₁, l₂, rfl, _⟩ := List.lookup_eq_some_iff.mp h
  simp

theorem decode_lookup {cfg : DecCfg} {x c : Char} (h : cfg.tbl.lookup x = some c) (t : Str) :
    decode cfg (x :: t) = some (c, t) := by
  simp [decode, h]

theorem validScalar_of_lt {v : Nat} (h : v < 128) : validScalar v = true := by
  simp [validScalar]; omega

/-- both Rust decoders take any non-zero scalar value; the specification takes fewer -/
theorem valid_of_spec {k v} (h : specCfg.valid k v = true) : (v != 0 && validScalar v) = true := by
  simp only [specCfg, Bool.and_eq_true] at h ⊢
  refine ⟨h.1, ?_⟩
  cases k with
  | x | oct => exact validScalar_of_lt (by simpa using h.2)
  | u | U => exact h.2

theorem decode_of_spec (cfg : DecCfg)
    (htbl : ∀ p ∈ simpleTable, cfg.tbl.lookup p.1 = some p.2)
    (hnum : ∀ p ∈ cfg.tbl, numKindOf p.1 = none)
    (hval : ∀ k v, specCfg.valid k v = true → cfg.valid k v = true)
    {s d r} (h : decode specCfg s = some (d, r)) : decode cfg s = some (d, r) := by
  cases s with
  | nil => simp [decode] at h
  | cons c t =>
    simp only [decode] at h ⊢
    cases hl : specCfg.tbl.lookup c with
    | some d' => rw [htbl _ (lookup_mem _ _ _ hl)]; simpa only [hl] using h
    | none =>
      simp only [hl] at h
      cases hk : numKindOf c with
      | none => simp [hk, specCfg, Option.map] at h
      | some k =>
        have hn : cfg.tbl.lookup c = none :=
          List.lookup_eq_none_iff.mpr fun p hp => bne_iff_ne.mpr fun e => by simp [e, hnum p hp] at hk
        simp only [hk, hn] at h ⊢
        cases hr : readNum k c t with
        | none => simp [hr] at h
        | some p =>
          simp only [hr] at h ⊢
          by_cases hv : specCfg.valid k p.1 = true
          · simpa only [hv, hval _ _ hv] using h
          · simp [hv] at h

/-- every single-letter escape of the specification is decoded the same way by split.rs (checked against the extracted table) -/
theorem implTbl_of_spec : ∀ p ∈ simpleTable, Gen.unescSplit.lookup p.1 = some p.2 := by decide
theorem implTbl_numeric : ∀ p ∈ Gen.unescSplit, numKindOf p.1 = none := by decide

theorem decode_impl_of_spec {s d r} (h : decode specCfg s = some (d, r)) : decode implCfg s = some (d, r) :=
  decode_of_spec implCfg implTbl_of_spec implTbl_numeric (fun _ _ => valid_of_spec) h

end P
