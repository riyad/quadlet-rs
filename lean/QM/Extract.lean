import QM.Esc
/-! `Spec`: the transcription of systemd's `extract_first_word` (src/basic/extract-word.c; DESIGN.md, Appendix A) with the flags
    EXTRACT_UNQUOTE, CUNESCAPE, RELAX, RETAIN_ESCAPE — trusted.  `Impl`: the model of `SplitWord::next` (split.rs), same shape. -/
namespace P

structure Flags where
  unquote : Bool
  cunescape : Bool
  relax : Bool
  retainEscape : Bool

inductive Res
  | einval
  | noWord
  | word (w : Str) (rest : Str)
  deriving DecidableEq, Repr

def dropSeps : Str → Str
  | [] => []
  | c :: r => if isSep c then dropSeps r else c :: r

theorem dropSeps_length (s : Str) : (dropSeps s).length ≤ s.length := by
  induction s with
  | nil => simp [dropSeps]
  | cons c r ih => simp only [dropSeps]; split <;> simp <;> omega

namespace Spec

/-- inside a word. `q` open quote, `bs` = a backslash was just read -/
def word (f : Flags) (q : Option Char) (bs : Bool) (acc : Str) (s : Str) : Res :=
  match bs, q, s with
  | true, _, [] => if f.relax then .word acc.reverse [] else .einval
  | true, q, c :: r =>
      if f.cunescape then
        match h : decode specCfg (c :: r) with
        | some (d, r') => word f q false (d :: acc) r'
        | none => .einval
      else word f q false (c :: acc) r
  | false, none, [] => .word acc.reverse []
  | false, some _, [] => if f.relax then .word acc.reverse [] else .einval
  | false, none, c :: r =>
      if isQuote c && f.unquote then word f (some c) false acc r
      else if c == '\\' && !f.retainEscape then word f none true acc r
      else if isSep c then .word acc.reverse (dropSeps r)
      else word f none false (c :: acc) r
  | false, some q, c :: r =>
      if c == q then word f none false acc r
      else if c == '\\' && !f.retainEscape then word f (some q) true acc r
      else word f (some q) false (c :: acc) r
termination_by s.length
decreasing_by
  all_goals simp_wf
  all_goals first | omega | (have := decode_length h; simp at this; omega)

def extractFirst (f : Flags) (s : Str) : Res :=
  match dropSeps s with
  | [] => .noWord
  | c :: r => word f none false [] (c :: r)

end Spec

/-- the separator set of split.rs (`WHITESPACE`, extracted from the source) -/
def implSep (c : Char) : Bool := Gen.whitespace.contains c
def implDropSeps : Str → Str
  | [] => []
  | c :: r => if implSep c then implDropSeps r else c :: r

namespace Impl

/-- SplitWord::next after the D3 repair (an explicitly started word is returned even when empty).
    `.einval` stands for "next() returned None because an escape failed" (iteration stops). -/
def word (q : Option Char) (bs : Bool) (acc : Str) (s : Str) : Res :=
  match bs, q, s with
  | true, _, [] => .word acc.reverse []
  | true, q, c :: r =>
      match h : decode implCfg (c :: r) with
      | some (d, r') => word q false (d :: acc) r'
      | none => .einval
  | false, _, [] => .word acc.reverse []
  | false, none, c :: r =>
      if isQuote c then word (some c) false acc r
      else if c == '\\' then word none true acc r
      else if implSep c then .word acc.reverse (implDropSeps r)
      else word none false (c :: acc) r
  | false, some q, c :: r =>
      if c == q then word none false acc r
      else if c == '\\' then word (some q) true acc r
      else word (some q) false (c :: acc) r
termination_by s.length
decreasing_by
  all_goals simp_wf
  all_goals first | omega | (have := decode_length h; simp at this; omega)

def next (s : Str) : Res :=
  match implDropSeps s with
  | [] => .noWord
  | c :: r => word none false [] (c :: r)

end Impl

def argFlags : Flags := { unquote := true, cunescape := true, relax := true, retainEscape := false }

end P
