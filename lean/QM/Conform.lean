import QM.Generated.Tables
import QM.Spec.Keys
/-! Conformance of the tables extracted from the source (Gen.*, regenerated on every run) with the frozen
    specification tables (Spec.*): equality as sets, decided by evaluation over the finite tables.  Order and multiplicity
    are not compared: the model and the theorems about it go through the extracted tables in the order these have, and what
    is checked against the documentation is which keys and which rows there are. -/
namespace Conform

def sameSet (a b : List (List Char)) : Bool := a.all (b.contains ·) && b.all (a.contains ·)
def sameRows (a b : List (List Char × List Char)) : Bool := a.all (b.contains ·) && b.all (a.contains ·)

theorem supported_container : sameSet Gen.SUPPORTED_CONTAINER_KEYS Spec.documented_SUPPORTED_CONTAINER_KEYS = true := by decide +kernel
theorem supported_pod : sameSet Gen.SUPPORTED_POD_KEYS Spec.documented_SUPPORTED_POD_KEYS = true := by decide +kernel
theorem supported_volume : sameSet Gen.SUPPORTED_VOLUME_KEYS Spec.documented_SUPPORTED_VOLUME_KEYS = true := by decide +kernel
theorem supported_network : sameSet Gen.SUPPORTED_NETWORK_KEYS Spec.documented_SUPPORTED_NETWORK_KEYS = true := by decide +kernel
theorem supported_kube : sameSet Gen.SUPPORTED_KUBE_KEYS Spec.documented_SUPPORTED_KUBE_KEYS = true := by decide +kernel
theorem supported_image : sameSet Gen.SUPPORTED_IMAGE_KEYS Spec.documented_SUPPORTED_IMAGE_KEYS = true := by decide +kernel
theorem supported_build : sameSet Gen.SUPPORTED_BUILD_KEYS Spec.documented_SUPPORTED_BUILD_KEYS = true := by decide +kernel
theorem supported_quadlet : sameSet Gen.SUPPORTED_QUADLET_KEYS Spec.documented_SUPPORTED_QUADLET_KEYS = true := by decide +kernel
theorem supported_extensions : sameSet Gen.SUPPORTED_EXTENSIONS Spec.documented_SUPPORTED_EXTENSIONS = true := by decide +kernel

theorem rows_from_build_unit_all_string_keys : sameRows Gen.tbl_from_build_unit_all_string_keys Spec.rows_from_build_unit_all_string_keys = true := by decide +kernel
theorem rows_from_build_unit_bool_keys : sameRows Gen.tbl_from_build_unit_bool_keys Spec.rows_from_build_unit_bool_keys = true := by decide +kernel
theorem rows_from_build_unit_string_keys : sameRows Gen.tbl_from_build_unit_string_keys Spec.rows_from_build_unit_string_keys = true := by decide +kernel
theorem rows_from_container_unit_all_string_keys : sameRows Gen.tbl_from_container_unit_all_string_keys Spec.rows_from_container_unit_all_string_keys = true := by decide +kernel
theorem rows_from_container_unit_bool_keys : sameRows Gen.tbl_from_container_unit_bool_keys Spec.rows_from_container_unit_bool_keys = true := by decide +kernel
theorem rows_from_container_unit_string_keys : sameRows Gen.tbl_from_container_unit_string_keys Spec.rows_from_container_unit_string_keys = true := by decide +kernel
theorem rows_from_image_unit_bool_keys : sameRows Gen.tbl_from_image_unit_bool_keys Spec.rows_from_image_unit_bool_keys = true := by decide +kernel
theorem rows_from_image_unit_string_keys : sameRows Gen.tbl_from_image_unit_string_keys Spec.rows_from_image_unit_string_keys = true := by decide +kernel
theorem rows_from_network_unit_bool_keys : sameRows Gen.tbl_from_network_unit_bool_keys Spec.rows_from_network_unit_bool_keys = true := by decide +kernel
theorem rows_from_network_unit_inline_lookup_and_add_all_strings : sameRows Gen.tbl_from_network_unit_inline_lookup_and_add_all_strings Spec.rows_from_network_unit_inline_lookup_and_add_all_strings = true := by decide +kernel
theorem rows_from_network_unit_string_keys : sameRows Gen.tbl_from_network_unit_string_keys Spec.rows_from_network_unit_string_keys = true := by decide +kernel
theorem rows_from_pod_unit_all_string_keys : sameRows Gen.tbl_from_pod_unit_all_string_keys Spec.rows_from_pod_unit_all_string_keys = true := by decide +kernel
theorem rows_from_pod_unit_string_keys : sameRows Gen.tbl_from_pod_unit_string_keys Spec.rows_from_pod_unit_string_keys = true := by decide +kernel
theorem rows_get_base_podman_command_inline_lookup_and_add_all_strings : sameRows Gen.tbl_get_base_podman_command_inline_lookup_and_add_all_strings Spec.rows_get_base_podman_command_inline_lookup_and_add_all_strings = true := by decide +kernel
theorem rows_handle_health_key_arg_map : sameRows Gen.tbl_handle_health_key_arg_map Spec.rows_handle_health_key_arg_map = true := by decide +kernel
theorem rows_handle_publish_ports_inline_lookup_and_add_all_strings : sameRows Gen.tbl_handle_publish_ports_inline_lookup_and_add_all_strings Spec.rows_handle_publish_ports_inline_lookup_and_add_all_strings = true := by decide +kernel

def sameKinds (a b : List (List Char × List Char × List Char × List Char)) : Bool := a.all (b.contains ·) && b.all (a.contains ·)
/-- which lookup (last / all / args / strv / key-val / bool) each key goes through -/
theorem lookup_kinds : sameKinds Gen.lookupKinds Spec.lookupKinds = true := by decide +kernel
/-- every converter checks its own section and [Quadlet] against the right table -/
theorem unknown_key_checks : Gen.unknownKeyChecks = Spec.unknownKeyChecks := by decide +kernel
theorem sorting_priority : (Gen.sortingPriority.all (Spec.sortingPriority.contains ·) && Spec.sortingPriority.all (Gen.sortingPriority.contains ·)) = true := by decide +kernel
theorem service_suffix : sameRows Gen.serviceSuffix Spec.serviceSuffix = true := by decide +kernel

end Conform
