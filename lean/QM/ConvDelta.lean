import QM.EmitLemmas
import QM.ConvShape
import QM.ConvCmd
import QM.Attr
/-! "Adding the key changes nothing else in the command" (C02) as a frame property of commands that are built from *segments*:
    a segment emits a block of arguments and reads the assignment histories of a fixed set of keys of the unit's section.
    Two units whose histories agree on every key except `k` get the same block from every segment that does not read `k` — so
    assigning, re-assigning, resetting or removing `k` (in the main file, a repeated section or a drop-in) changes the command
    only inside the block of the one segment that reads `k`, and moves nothing else. -/
namespace Cv
open MM

structure Seg where
  reads : List Str
  emit : SUnit → List Str

/-- the segment's block is a function of the histories of the keys it reads -/
def Seg.Local (sec : Str) (g : Seg) : Prop :=
  ∀ u u' : SUnit, (∀ k ∈ g.reads, assignments u sec k = assignments u' sec k) → g.emit u = g.emit u'

def AgreeExcept (sec k : Str) (u u' : SUnit) : Prop := ∀ k', k' ≠ k → assignments u sec k' = assignments u' sec k'

theorem agreeExcept_addEntry (u : SUnit) (sec k raw : Str) : AgreeExcept sec k u (addEntry u sec k raw) :=
  fun _ hk => (assignments_addEntry_other u sec k raw hk).symm

theorem Seg.frame {sec k : Str} {g : Seg} (hl : g.Local sec) {u u' : SUnit} (h : AgreeExcept sec k u u') (hk : k ∉ g.reads) :
    g.emit u = g.emit u' :=
  hl u u' fun k' hk' => h k' (fun e => hk (e ▸ hk'))

def cmdOf (segs : List Seg) (u : SUnit) : List Str := segs.flatMap (·.emit u)

theorem cmdOf_nil (u : SUnit) : cmdOf [] u = [] := rfl
theorem cmdOf_cons (g : Seg) (l : List Seg) (u : SUnit) : cmdOf (g :: l) u = g.emit u ++ cmdOf l u := rfl
theorem cmdOf_append (a b : List Seg) (u : SUnit) : cmdOf (a ++ b) u = cmdOf a u ++ cmdOf b u := List.flatMap_append

theorem emit_infix {g : Seg} {segs : List Seg} (hg : g ∈ segs) (u : SUnit) : g.emit u <:+: cmdOf segs u :=
  List.infix_of_mem_flatten (List.mem_map_of_mem (f := (·.emit u)) hg)

theorem cmd_unread (sec k : Str) (segs : List Seg) (hl : ∀ x ∈ segs, x.Local sec ∧ k ∉ x.reads) (u u' : SUnit) (h : AgreeExcept sec k u u') :
    cmdOf segs u = cmdOf segs u' :=
  flatMap_congr' _ _ segs fun x hx => Seg.frame (hl x hx).1 h (hl x hx).2

/-- **the frame theorem**: only the reader of `k` sees a change of `k` — everything before and everything after its block is
    identical, argument for argument -/
theorem cmd_delta (sec k : Str) (A B : List Seg) (g : Seg) (hA : ∀ x ∈ A, x.Local sec ∧ k ∉ x.reads) (hB : ∀ x ∈ B, x.Local sec ∧ k ∉ x.reads)
    (u u' : SUnit) (h : AgreeExcept sec k u u') :
    cmdOf (A ++ g :: B) u = cmdOf A u ++ g.emit u ++ cmdOf B u ∧ cmdOf (A ++ g :: B) u' = cmdOf A u ++ g.emit u' ++ cmdOf B u := by
  simp only [cmdOf_append, cmdOf_cons, cmd_unread sec k A hA u u' h, cmd_unread sec k B hB u u' h, List.append_assoc, and_self]

theorem split_at_reader (segs : List Seg) (hnd : (segs.flatMap (·.reads)).Nodup) (g : Seg) (hg : g ∈ segs) (k : Str) (hk : k ∈ g.reads) :
    ∃ A B, segs = A ++ g :: B ∧ (∀ x ∈ A, k ∉ x.reads) ∧ (∀ x ∈ B, k ∉ x.reads) := by
  obtain ⟨A, B, rfl⟩ := List.append_of_mem hg
  simp only [List.flatMap_append, List.flatMap_cons, List.nodup_append] at hnd
  -- `hnd` now: the keys read in `A` are distinct ∧ (those of `g` are ∧ those read in `B` are ∧ none of `g` is read in `B`: `hgB`) ∧
  -- none read in `A` is read by `g` or in `B`: `hAg`
  obtain ⟨-, ⟨-, -, hgB⟩, hAg⟩ := hnd
  exact ⟨A, B, rfl, fun x hx hkx => hAg k (List.mem_flatMap.mpr ⟨x, hx, hkx⟩) k (List.mem_append_left _ hk) rfl,
    fun x hx hkx => hgB k hk k (List.mem_flatMap.mpr ⟨x, hx, hkx⟩) rfl⟩

/-- whatever holds (`P`, `Q`) of the two commands holds of them written as "before the block, the block, after the block" of
    the one segment that reads `k` -/
theorem delta_of_segs (sec : Str) (segs : List Seg) (hl : ∀ g ∈ segs, g.Local sec) {keys : List Str}
    (hr : segs.flatMap (·.reads) = keys) (hnd : keys.Nodup) (k : Str) (hk : k ∈ keys) (u u' : SUnit) (h : AgreeExcept sec k u u')
    {P Q : List Str → Prop} (hP : P (cmdOf segs u)) (hQ : Q (cmdOf segs u')) :
    ∃ A g B, segs = A ++ g :: B ∧ k ∈ g.reads ∧ P (cmdOf A u ++ g.emit u ++ cmdOf B u) ∧ Q (cmdOf A u ++ g.emit u' ++ cmdOf B u) := by
  subst hr
  obtain ⟨g, hg, hkg⟩ := List.mem_flatMap.mp hk
  obtain ⟨A, B, rfl, hA, hB⟩ := split_at_reader segs hnd g hg k hkg
  obtain ⟨e1, e2⟩ := cmd_delta sec k A B g (fun x hx => ⟨hl x (List.mem_append_left _ hx), hA x hx⟩)
    (fun x hx => ⟨hl x (List.mem_append_right _ (List.mem_cons_of_mem _ hx)), hB x hx⟩) u u' h
  exact ⟨A, g, B, rfl, hkg, e1 ▸ hP, e2 ▸ hQ⟩

theorem unread_of_segs (sec : Str) (segs : List Seg) (hl : ∀ g ∈ segs, g.Local sec) {keys : List Str}
    (hr : segs.flatMap (·.reads) = keys) (k : Str) (hk : k ∉ keys) (u u' : SUnit) (h : AgreeExcept sec k u u') :
    cmdOf segs u = cmdOf segs u' :=
  cmd_unread sec k segs (fun x hx => ⟨hl x hx, fun hkx => hk (hr ▸ List.mem_flatMap.mpr ⟨x, hx, hkx⟩)⟩) u u' h

def segConst (ws : List Str) : Seg := ⟨[], fun _ => ws⟩
def segString (sec : Str) (r : Str × Str) : Seg := ⟨[r.1], fun u => rowString u sec r⟩
def segAll (sec : Str) (r : Str × Str) : Seg := ⟨[r.1], fun u => rowAll u sec r⟩
def segBool (sec : Str) (r : Str × Str) : Seg := ⟨[r.1], fun u => rowBool u sec r⟩
def segArgs (sec : Str) (key : String) : Seg := ⟨[s key], fun u => lookupAllArgs u sec (s key)⟩
def segKeyVal (sec : Str) (flag key : String) : Seg := ⟨[s key], fun u => addKeys flag (lookupAllKeyVal u sec (s key))⟩
def segLast (sec : Str) (key : String) (f : Option Str → List Str) : Seg := ⟨[s key], fun u => f (lookup u sec (s key))⟩
def segStrv (sec : Str) (key : String) (f : List Str → List Str) : Seg := ⟨[s key], fun u => f (lookupAllStrv u sec (s key))⟩
def segArgsWith (sec : Str) (key : String) (f : List Str → List Str) : Seg := ⟨[s key], fun u => f (lookupAllArgs u sec (s key))⟩
def segBoolOn (sec : Str) (key : String) (args : List Str) : Seg :=
  ⟨[s key], fun u => if (lookupBool u sec (s key)).getD false then args else []⟩

attribute [seg_local] List.forall_mem_append List.forall_mem_cons List.forall_mem_map List.not_mem_nil false_imp_iff implies_true
  and_true true_and and_assoc

theorem Seg.Local.one {sec k : Str} {f : SUnit → List Str}
    (hf : ∀ {u u' : SUnit}, assignments u sec k = assignments u' sec k → f u = f u') : Seg.Local sec ⟨[k], f⟩ :=
  fun _ _ h => hf (h k (List.mem_singleton_self k))

@[seg_local] theorem segConst_local (sec : Str) (ws : List Str) : (segConst ws).Local sec := fun _ _ _ => rfl
@[seg_local] theorem segString_local (sec : Str) (r : Str × Str) : (segString sec r).Local sec := .one rowString_congr
@[seg_local] theorem segAll_local (sec : Str) (r : Str × Str) : (segAll sec r).Local sec := .one rowAll_congr
@[seg_local] theorem segBool_local (sec : Str) (r : Str × Str) : (segBool sec r).Local sec := .one rowBool_congr
@[seg_local] theorem segArgs_local (sec : Str) (key : String) : (segArgs sec key).Local sec := .one lookupAllArgs_congr
@[seg_local] theorem segKeyVal_local (sec : Str) (flag key : String) : (segKeyVal sec flag key).Local sec :=
  .one fun h => congrArg (addKeys flag) (lookupAllKeyVal_congr h)
@[seg_local] theorem segLast_local (sec : Str) (key : String) (f : Option Str → List Str) : (segLast sec key f).Local sec :=
  .one fun h => congrArg f (lookup_congr h)
@[seg_local] theorem segStrv_local (sec : Str) (key : String) (f : List Str → List Str) : (segStrv sec key f).Local sec :=
  .one fun h => congrArg f (lookupAllStrv_congr h)
@[seg_local] theorem segArgsWith_local (sec : Str) (key : String) (f : List Str → List Str) : (segArgsWith sec key f).Local sec :=
  .one fun h => congrArg f (lookupAllArgs_congr h)
@[seg_local] theorem segBoolOn_local (sec : Str) (key : String) (args : List Str) : (segBoolOn sec key args).Local sec :=
  .one fun h => by simp only [lookupBool_congr h]

theorem cmdOf_string (sec : Str) (rows : List (Str × Str)) (u : SUnit) : cmdOf (rows.map (segString sec)) u = addString u sec rows := by
  simp [cmdOf, addString_eq, List.flatMap_map, segString]
theorem cmdOf_all (sec : Str) (rows : List (Str × Str)) (u : SUnit) : cmdOf (rows.map (segAll sec)) u = addAllStrings u sec rows := by
  simp [cmdOf, addAllStrings_eq, List.flatMap_map, segAll]
theorem cmdOf_bool (sec : Str) (rows : List (Str × Str)) (u : SUnit) : cmdOf (rows.map (segBool sec)) u = addBool u sec rows := by
  simp [cmdOf, addBool_eq, List.flatMap_map, segBool]

theorem reads_rows (mk : Str × Str → Seg) (hmk : ∀ r, (mk r).reads = [r.1]) (rows : List (Str × Str)) :
    (rows.map mk).flatMap (·.reads) = rows.map Prod.fst := by
  rw [List.flatMap_map, List.map_eq_flatMap]
  simp only [hmk]

theorem segString_infix {segs : List Seg} {sec k f v : Str} (hg : segString sec (k, f) ∈ segs) {u : SUnit}
    (hv : lookup u sec k = some v) (hne : v.isEmpty = false) : [f, v] <:+: cmdOf segs u :=
  rowString_some (f := f) hv hne ▸ emit_infix hg u

def imageSegs (E : Env) : List Seg :=
  let sec := s "Image"
  [segConst [E.podman]]
    ++ Gen.tbl_get_base_podman_command_inline_lookup_and_add_all_strings.map (segAll sec)
    ++ [segArgs sec "GlobalArgs", segConst [s "image", s "pull"]]
    ++ Gen.tbl_from_image_unit_string_keys.map (segString sec)
    ++ Gen.tbl_from_image_unit_bool_keys.map (segBool sec)
    ++ [segArgs sec "PodmanArgs", segLast sec "Image" (fun o => [o.getD []])]

theorem imageCmd_segs (E : Env) (u : SUnit) : imageCmd E u = cmdOf (imageSegs E) u := by
  unfold imageSegs
  simp only [cmdOf_append, cmdOf_string, cmdOf_bool, cmdOf_all]
  simp [cmdOf, imageCmd, baseCmd, moduleArgs, addAllStrings0, addAllStrings, podmanArgs, segConst, segArgs, segLast]

theorem imageSegs_local (E : Env) : ∀ g ∈ imageSegs E, g.Local (s "Image") := by
  simp only [imageSegs, seg_local]


def segMulti (keys : List Str) (f : SUnit → List Str) : Seg := ⟨keys, f⟩
@[seg_local] theorem segMulti_local (sec : Str) (keys : List Str) (f : SUnit → List Str) :
    (segMulti keys f).Local sec ↔ ∀ u u' : SUnit, (∀ k ∈ keys, assignments u sec k = assignments u' sec k) → f u = f u' := Iff.rfl

/-- the `--subnet` / `--gateway` / `--ip-range` block; nothing where `networkSubnets` fails: then the conversion fails and there is no command -/
def networkSubnetBlock (u : SUnit) : List Str :=
  match networkSubnets u (s "Network") with
  | .ok l => l
  | .error _ => []

theorem networkSubnets_congr (u u' : SUnit) (sec : Str)
    (h1 : assignments u sec (s "Subnet") = assignments u' sec (s "Subnet"))
    (h2 : assignments u sec (s "Gateway") = assignments u' sec (s "Gateway"))
    (h3 : assignments u sec (s "IPRange") = assignments u' sec (s "IPRange")) :
    networkSubnets u sec = networkSubnets u' sec := by
  unfold networkSubnets
  rw [lookupAll_congr h1, lookupAll_congr h2, lookupAll_congr h3]

def networkSegs (E : Env) (path : Str) : List Seg :=
  let sec := s "Network"
  [segConst [E.podman]]
    ++ Gen.tbl_get_base_podman_command_inline_lookup_and_add_all_strings.map (segAll sec)
    ++ [segArgs sec "GlobalArgs", segConst [s "network", s "create", s "--ignore"]]
    ++ Gen.tbl_from_network_unit_bool_keys.map (segBool sec)
    ++ Gen.tbl_from_network_unit_string_keys.map (segString sec)
    ++ Gen.tbl_from_network_unit_inline_lookup_and_add_all_strings.map (segAll sec)
    ++ [segMulti [s "Subnet", s "Gateway", s "IPRange"] networkSubnetBlock,
        segKeyVal sec "--opt" "Options", segKeyVal sec "--label" "Label", segArgs sec "PodmanArgs",
        segMulti [s "NetworkName"] (fun u => [networkNameOf path u])]

theorem networkSegs_local (E : Env) (path : Str) : ∀ g ∈ networkSegs E path, g.Local (s "Network") := by
  simp only [networkSegs, seg_local]
  exact ⟨fun u u' h => by simp only [networkSubnetBlock, networkSubnets_congr u u' _ h.1 h.2.1 h.2.2],
    fun u u' h => by simp only [networkNameOf, lookup_congr h]⟩

theorem networkCmd_segs (E : Env) (path : Str) (u : SUnit) : cmdOf (networkSegs E path) u =
    baseCmd E u (s "Network") ++ [s "network", s "create", s "--ignore"]
      ++ addBool u (s "Network") Gen.tbl_from_network_unit_bool_keys
      ++ addString u (s "Network") Gen.tbl_from_network_unit_string_keys
      ++ addAllStrings u (s "Network") Gen.tbl_from_network_unit_inline_lookup_and_add_all_strings
      ++ networkSubnetBlock u ++ addKeys "--opt" (lookupAllKeyVal u (s "Network") (s "Options"))
      ++ addKeys "--label" (lookupAllKeyVal u (s "Network") (s "Label")) ++ podmanArgs u (s "Network") ++ [networkNameOf path u] := by
  unfold networkSegs
  -- `↓`: the appends are re-associated on the way down, before their arguments are simplified; the other way round every block
  -- is gone through again after each re-association, which is much slower
  simp only [↓ List.append_assoc, List.cons_append, List.nil_append, List.append_nil, cmdOf_append, cmdOf_cons, cmdOf_nil,
    cmdOf_string, cmdOf_bool, cmdOf_all, baseCmd, moduleArgs, addAllStrings0, addAllStrings, podmanArgs, segConst, segArgs, segKeyVal,
    segMulti]

theorem fromNetwork_segs (E : Env) (path : Str) (u svc : SUnit) (n : Str) (h : fromNetwork E path u = .ok (svc, n)) :
    HasExec svc "ExecStart" (cmdOf (networkSegs E path) u) ∧ n = networkNameOf path u := by
  rw [networkCmd_segs]
  unfold fromNetwork at h
  simp only [bind_ok] at h
  -- the two key checks (a `()` and its equation each), then a name and an equation per bind: `networkSubnets`, the `addRawExec`
  obtain ⟨_, _, _, _, sub, hsub, svc1, hexec, hfin⟩ := h
  obtain ⟨rfl, rfl⟩ := Prod.mk.inj (Except.ok.inj hfin)
  rw [networkSubnetBlock, hsub]
  exact ⟨(HasExec.of_addRawExec hexec).of_built (built_oneShot (M := []) _ true), rfl⟩

theorem C02_network_shape (E : Env) (path : Str) (u svc : SUnit) (n : Str) (h : fromNetwork E path u = .ok (svc, n)) :
    ∃ sub, HasExec svc "ExecStart"
      (baseCmd E u (s "Network") ++ [s "network", s "create", s "--ignore"]
        ++ addBool u (s "Network") Gen.tbl_from_network_unit_bool_keys
        ++ addString u (s "Network") Gen.tbl_from_network_unit_string_keys
        ++ addAllStrings u (s "Network") Gen.tbl_from_network_unit_inline_lookup_and_add_all_strings
        ++ sub ++ addKeys "--opt" (lookupAllKeyVal u (s "Network") (s "Options"))
        ++ addKeys "--label" (lookupAllKeyVal u (s "Network") (s "Label")) ++ podmanArgs u (s "Network") ++ [n]) := by
  obtain ⟨hx, rfl⟩ := fromNetwork_segs E path u svc _ h
  rw [networkCmd_segs] at hx
  exact ⟨_, hx⟩

end Cv
