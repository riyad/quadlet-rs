import QM.InstallModel
import QM.PathLemmas
/-! C12: from the component stack of `cleaned` to the *string* the link is created at — an alias that passes the
    acceptance test is, as a path string, a sequence of plain names separated by single slashes. -/
namespace Inst
open Pth

def PlainPart (x : Str) : Prop := isNormal x = true ∧ '/' ∉ x

theorem components_rel (p : Str) (h : isAbs p = false) : ∀ c ∈ components p, relComp PlainPart c := by
  intro c hc
  rw [components_eq, h, List.mem_append] at hc
  rcases hc with hc | hc
  · rw [if_neg Bool.false_ne_true] at hc
    split at hc
    · rw [List.mem_singleton.mp hc]; trivial
    · cases hc
  · obtain ⟨y, hy, he⟩ := List.mem_filterMap.mp hc
    rcases g'_eq_some y c he with ⟨_, rfl⟩ | ⟨hn, rfl⟩
    · trivial
    · exact ⟨hn, splitSlash_parts_noSlash p y hy⟩

theorem render_parent_head (st : List Comp) : (components (render (Comp.parent :: st))).head? = some Comp.parent := by
  cases st with
  | nil => decide
  | cons c cs =>
    rw [show render (Comp.parent :: c :: cs) = dotdot ++ '/' :: render (c :: cs) from rfl, components_eq,
      splitSlash_append dotdot _ (by decide)]
    simp [isAbs, dotdot, dot, g']


theorem alias_string (svcFile raw : Str) (h : aliasOK svcFile (cleaned raw) = true) :
    isAbs (cleaned raw) = false ∧ ∀ part ∈ splitSlash (cleaned raw), isNormal part = true := by
  unfold aliasOK at h
  simp only [Bool.and_eq_true, Bool.not_eq_true', bne_iff_ne, ne_eq] at h
  obtain ⟨⟨⟨hne, hrel⟩, hhead⟩, _⟩ := h
  refine ⟨hrel, ?_⟩
  have hraw : isAbs raw = false := by
    cases hr : isAbs raw with
    | false => rfl
    | true => rw [isAbs_cleaned raw hr] at hrel; cases hrel
  -- the cleaned stack: some "..", then plain parts of the raw alias; the test on the head says there is no ".."
  obtain ⟨k, xs, hst, hxs⟩ := fold_relShape PlainPart (components raw) [] (components_rel raw hraw) (relShape_nil _)
  unfold cleaned at hne hhead ⊢
  rw [hst] at hne hhead ⊢
  cases k with
  | succ n => exact absurd (render_parent_head _) hhead
  | zero =>
    cases xs with
    | nil => simp [render] at hne
    | cons x xs =>
      intro part hpart
      rw [List.replicate_zero, List.nil_append, render_normals,
        splitSlash_names x xs (hxs x (by simp)).2 (fun y hy => (hxs y (by simp [hy])).2)] at hpart
      exact (hxs part hpart).1

/-- the premises are satisfiable and the filter is not vacuous -/
example : aliasOK (s "a.service") (cleaned (s "sub/../x/./y.service")) = true
    ∧ cleaned (s "sub/../x/./y.service") = s "x/y.service"
    ∧ aliasOK (s "a.service") (cleaned (s "sub/../../x.service")) = false
    ∧ aliasOK (s "a.service") (cleaned (s "/abs.service")) = false := by decide +kernel

end Inst
