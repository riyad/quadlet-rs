import QM.ConvKept
/-! C09 at the level of the .pod converter: the `Wants=` / `Before=` entries of the generated pod service are the ones
    the service starts with (the default dependency, the user's own) followed by exactly one per container that joined the pod,
    in the order they joined. -/
namespace Cv
open MM

/-- the managed pairs except the two the member loop writes: nothing after that loop touches them -/
def managedPod : List (Str × Str) := (managed.erase (s "Unit", s "Wants")).erase (s "Unit", s "Before")

def KeepsPod (a b : SUnit) : Prop := ∀ S k, (S, k) ∉ managedPod → keyEntries b S k = keyEntries a S k

theorem members_not_written {k : String} (hk : k = "Wants" ∨ k = "Before") :
    (s "Unit", s k) ∉ addPairs ∧ (s "Unit", s k) ∉ setPairs ∧ s k ∉ rawKeys := by
  rcases hk with rfl | rfl
  all_goals simp only [addPairs, setPairs, rawKeys, List.mem_cons, List.not_mem_nil, Prod.mk.injEq, s_inj, String.reduceEq, and_false,
    or_self, not_false_eq_true, and_self]

theorem mem_managedPod {p : Str × Str} (h : p ∈ managed) (hw : p ≠ (s "Unit", s "Wants")) (hb : p ≠ (s "Unit", s "Before")) :
    p ∈ managedPod :=
  (List.mem_erase_of_ne hb).mpr ((List.mem_erase_of_ne hw).mpr h)

theorem written_managedPod :
    (∀ p ∈ addPairs, p ∈ managedPod) ∧ (∀ p ∈ setPairs, p ∈ managedPod) ∧ ∀ k ∈ rawKeys, (s "Service", k) ∈ managedPod :=
  have w := members_not_written (.inl rfl)
  have b := members_not_written (.inr rfl)
  ⟨fun p h => mem_managedPod (written_managed.1 p (.tail _ (.tail _ h))) (fun e => w.1 (e ▸ h)) (fun e => b.1 (e ▸ h)),
    fun p h => mem_managedPod (written_managed.2.1 p h) (fun e => w.2.1 (e ▸ h)) (fun e => b.2.1 (e ▸ h)),
    fun k h => mem_managedPod (written_managed.2.2 k h) (fun e => w.2.2 ((Prod.mk.inj e).2 ▸ h)) (fun e => b.2.2 ((Prod.mk.inj e).2 ▸ h))⟩

theorem Built.keepsPod {M : List (Str × Str)} {a b : SUnit} (h : Built M a b) (hM : ∀ p ∈ M, p ∈ managedPod) : KeepsPod a b :=
  fun _ _ hk => h.keyEntries_eq_outside ⟨hM, written_managedPod.2⟩ hk

theorem kp_prependS (svc : SUnit) (sec key : String) (v : Str) (h : (s sec, s key) ∈ managedPod := by decide) : KeepsPod svc (prependS svc sec key v) :=
  (Built.prependS sec key v (.refl svc) h).keepsPod fun _ hp => hp

theorem kp_oneShot (svc : SUnit) (b : Bool) : KeepsPod svc (oneShot svc b) :=
  (built_oneShot svc b).keepsPod written_managedPod.1

theorem kp_killMode (u svc svc' : SUnit) (h : killMode u svc = .ok svc') : KeepsPod svc svc' :=
  (built_killMode h).keepsPod written_managedPod.1

theorem kp_handleImageSource (E : Env) (name : Str) (svc : SUnit) (r : Str × SUnit)
    (h : handleImageSource E name svc = .ok r) : KeepsPod svc r.2 :=
  ((handleImageSource_along ..).built h).keepsPod written_managedPod.1

theorem keyEntries_members (cs : List Str) (svc : SUnit) (k : String) (hk : k = "Wants" ∨ k = "Before") :
    keyEntries (addMembers cs svc) (s "Unit") (s k) = keyEntries svc (s "Unit") (s k) ++ cs.map (fun c => (s k, P.quoteValue c)) := by
  unfold addMembers
  induction cs generalizing svc with
  | nil => simp
  | cons c cs ih =>
    rw [List.foldl_cons, ih, Cv.addS, Cv.addS, keyEntries_addEntry, keyEntries_addEntry]
    rcases hk with rfl | rfl
    · rw [if_neg (by decide), if_pos ⟨rfl, rfl⟩, List.map_cons, List.append_assoc]; rfl
    · rw [if_pos ⟨rfl, rfl⟩, if_neg (by decide), List.map_cons, List.append_assoc]; rfl

theorem pod_members (E : Env) (path : Str) (u svc : SUnit) (cs : List Str) (h : fromPod E path u cs = .ok svc)
    (k : String) (hk : k = "Wants" ∨ k = "Before") :
    keyEntries svc (s "Unit") (s k)
      = keyEntries (preService path u (s "Pod") (s "X-Pod")) (s "Unit") (s k) ++ cs.map (fun c => (s k, P.quoteValue c)) := by
  have nw := members_not_written hk
  -- from the end backwards: the writes after the member loop leave `k` alone (`tail_fromPod`), the loop appends the members, and the
  -- `addS` before it writes `RequiresMountsFor`, which is not `k`: that pair is in `addPairs`, `(Unit, k)` is not (`nw.1`)
  rw [(tail_fromPod h).keyEntries_eq nw.1 nw.2.1 fun _ => nw.2.2, keyEntries_members cs _ k hk, Cv.addS, keyEntries_addEntry,
    if_neg fun (e : _ ∧ s "RequiresMountsFor" = s k) => nw.1 (e.2 ▸ by mem_lit)]

end Cv
