import QM.Conv
/-! How a hypothesis `from<Type> … = .ok r` is taken apart: `bind_ok` for a bind, `guard_ok`, `ok_of_ite`
    for an `if` (a `split` would abstract the whole body).  Besides: the key check, what the .image converter returns as an
    explicit expression, and the section-level effect of the service-side helpers. -/
namespace Cv
open MM

theorem checkUnknown_err (u : SUnit) (sec : Str) (sup : List Str) (k : Str)
    (h : firstUnknown (entriesOf u sec) sup = some k) : checkUnknown u sec sup = .error (.unknownKey k) := by
  simp [checkUnknown, h]

theorem checkUnknown_ok (u : SUnit) (sec : Str) (sup : List Str)
    (h : firstUnknown (entriesOf u sec) sup = none) : checkUnknown u sec sup = .ok () := by
  simp [checkUnknown, h]

/-! Every converter has these two key checks, followed by the rest of it, `x`: five open with them, `fromBuild` and `fromContainer`
    come to them after looking up the unit's own table entry (.build: and the guard on its resource name). -/

theorem rejects_own {α} {u : SUnit} {sec : Str} {sup : List Str} {k : Str} {x : R α}
    (h : firstUnknown (entriesOf u sec) sup = some k) :
    (do checkUnknown u sec sup; checkUnknown u (s "Quadlet") supportedQuadlet; x) = .error (.unknownKey k) := by
  rw [checkUnknown_err _ _ _ _ h]; rfl

theorem rejects_quadlet {α} {u : SUnit} {sec : Str} {sup : List Str} {k : Str} {x : R α}
    (h0 : firstUnknown (entriesOf u sec) sup = none) (h : firstUnknown (entriesOf u (s "Quadlet")) supportedQuadlet = some k) :
    (do checkUnknown u sec sup; checkUnknown u (s "Quadlet") supportedQuadlet; x) = .error (.unknownKey k) := by
  rw [checkUnknown_ok _ _ _ h0, checkUnknown_err _ _ _ _ h]; rfl

theorem firstUnknown_none_iff (es : Entries) (sup : List Str) :
    firstUnknown es sup = none ↔ ∀ kv ∈ es, kv.1 ∈ sup := by
  unfold firstUnknown
  simp [List.find?_eq_none]

theorem bind_ok {α β} (x : R α) (f : α → R β) (b : β) : (x >>= f) = .ok b ↔ ∃ a, x = .ok a ∧ f a = .ok b := by
  cases x with
  | error e => simp [bind, Except.bind]
  | ok a => simp [bind, Except.bind]

/-- `if c then throw e` in a `do` block: a computation that succeeds went past it -/
theorem guard_ok {α β} {c : Prop} [Decidable c] {e : Err} {k : α → R β} {x : R β} {b : β} :
    (if c then (throw e : R α) >>= k else x) = .ok b ↔ ¬c ∧ x = .ok b := by
  split
  · exact ⟨nofun, fun h => absurd ‹c› h.1⟩
  · exact ⟨fun h => ⟨‹¬c›, h⟩, fun h => h.2⟩

theorem ok_of_ite {β} {c : Prop} [Decidable c] {x y : R β} {b : β} (h : (if c then x else y) = .ok b) :
    c ∧ x = .ok b ∨ ¬c ∧ y = .ok b := by
  split at h
  · exact .inl ⟨‹_›, h⟩
  · exact .inr ⟨‹_›, h⟩

theorem addRawExec_ok (svc svc' : SUnit) (k : String) (args : List Str) (h : addRawExec svc k args = .ok svc') :
    svc' = addEntry svc (s "Service") (s k) (P.quoteWords args) := by
  unfold addRawExec at h
  simp only at h
  split at h <;> simp at h
  exact h.symm

def imageCmd (E : Env) (u : SUnit) : List Str :=
  baseCmd E u (s "Image") ++ [s "image", s "pull"]
    ++ addString u (s "Image") Gen.tbl_from_image_unit_string_keys
    ++ addBool u (s "Image") Gen.tbl_from_image_unit_bool_keys
    ++ podmanArgs u (s "Image") ++ [(lookup u (s "Image") (s "Image")).getD []]

def imageSvc (E : Env) (path : Str) (u : SUnit) : SUnit :=
  oneShot (addEntry
    (addS (renameSection (renameSection (startService path u) (s "Image") (s "X-Image")) (s "Quadlet") (s "X-Quadlet"))
      "Unit" "RequiresMountsFor" (s "%t/containers"))
    (s "Service") (s "ExecStart") (P.quoteWords (imageCmd E u))) true

theorem fromImage_ok (E : Env) (path : Str) (u : SUnit) (svc : SUnit) (r : Str)
    (h : fromImage E path u = .ok (svc, r)) : svc = imageSvc E path u := by
  unfold fromImage at h
  simp only [bind_ok, guard_ok] at h
  -- the two key checks (a `()` and its equation each), the guard on Image= (`-`), the `addRawExec`
  obtain ⟨_, _, _, _, -, svc1, hexec, hfin⟩ := h
  obtain ⟨rfl, -⟩ := Prod.mk.inj (Except.ok.inj hfin)
  rw [addRawExec_ok _ _ _ _ hexec]
  rfl

theorem entriesOf_addS (svc : SUnit) (sec key : String) (v S : Str) :
    entriesOf (addS svc sec key v) S = if S = s sec then entriesOf svc (s sec) ++ [(s key, P.quoteValue v)] else entriesOf svc S := by
  unfold addS; rw [entriesOf_addEntry]
theorem entriesOf_setS_ne (svc : SUnit) (sec key : String) (v S : Str) (h : S ≠ s sec) :
    entriesOf (setS svc sec key v) S = entriesOf svc S := by
  unfold setS; rw [entriesOf_setEntry]; simp [h]
theorem entriesOf_prependS (svc : SUnit) (sec key : String) (v S : Str) :
    entriesOf (prependS svc sec key v) S = if S = s sec then (s key, P.quoteValue v) :: entriesOf svc (s sec) else entriesOf svc S := by
  unfold prependS; rw [entriesOf_prepend]

end Cv
