import QM.Parser
/-! What the round trips through the reader (C03, C06) start from: `bsOK` and `WFEntry` / `WFLine` / `WFSec`, the well-formedness under
    which a printed unit reads back unchanged, and how the reader's scanning functions (`pv`, `takeUntil`, `skipWhile`, `parseBody`,
    `parseHeader`) run over text of a known shape. -/
namespace Parse

/-- raw values the printer can emit verbatim: every backslash starts a two-character pair whose second
    character is neither a space nor a newline, and there is no newline -/
def bsOK : Str → Bool
  | [] => true
  | c :: r =>
    if c == '\\' then
      match r with
      | [] => false
      | d :: r' => d != ' ' && d != '\n' && bsOK r'
    else c != '\n' && bsOK r

theorem pv_frag (f : Str) (h : bsOK f = true) (acc t : Str) :
    pv .normal 0 acc (f ++ t) = pv .normal 0 (f.reverse ++ acc) t := by
  fun_induction bsOK f generalizing acc with
  | case1 => simp
  | case2 c hc => simp at h
  | case3 c hc d r' ih =>
    simp only [beq_iff_eq] at hc; subst hc
    simp only [Bool.and_eq_true, bne_iff_ne, ne_eq] at h
    obtain ⟨⟨h1, h2⟩, h3⟩ := h
    have e1 : (d == ' ') = false := by simpa using h1
    have e2 : (d == '\n') = false := by simpa using h2
    simp only [List.cons_append, pv, beq_self_eq_true, if_true, e1, e2, Bool.false_eq_true, if_false,
      List.replicate_zero, List.nil_append]
    rw [ih h3]; simp
  | case4 c r hc ih =>
    simp only [Bool.and_eq_true, bne_iff_ne, ne_eq] at h
    have e1 : (c == '\\') = false := by simpa using hc
    have e2 : (c == '\n') = false := by simpa using h.1
    simp only [List.cons_append, pv, e1, e2, Bool.false_eq_true, if_false]
    rw [ih h.2]; simp

theorem pv_raw (raw : Str) (h : bsOK raw = true) (acc rest : Str) :
    pv .normal 0 acc (raw ++ '\n' :: rest) = (acc.reverse ++ raw, '\n' :: rest) := by
  rw [pv_frag raw h]; simp [pv]

theorem takeUntil_append (p : Char → Bool) (a r : Str) (ha : ∀ x ∈ a, p x = false)
    (hr : ∀ c, r.head? = some c → p c = true) : takeUntil p (a ++ r) = (a, r) := by
  induction a with
  | nil =>
    cases r with
    | nil => rfl
    | cons c r => simp [takeUntil, hr c rfl]
  | cons x xs ih =>
    simp only [List.cons_append, takeUntil, ha x (by simp), Bool.false_eq_true, if_false]
    rw [ih (fun y hy => ha y (by simp [hy]))]

theorem skipWhile_all (p : Char → Bool) (a r : Str) (ha : ∀ c ∈ a, p c = true)
    (hr : ∀ c, r.head? = some c → p c = false) : skipWhile p (a ++ r) = r := by
  induction a with
  | nil =>
    cases r with
    | nil => rfl
    | cons c r => simp [skipWhile, hr c rfl]
  | cons x xs ih =>
    simp only [List.cons_append, skipWhile, ha x (by simp), if_true]
    exact ih (fun c hc => ha c (by simp [hc]))

theorem takeUntil_nl (t r : Str) (ht : ∀ c ∈ t, c ≠ '\n') :
    (takeUntil (· == '\n') (t ++ '\n' :: r)).2 = '\n' :: r := by
  rw [takeUntil_append (· == '\n') t _ (fun x hx => by simpa using ht x hx) (fun _ h => by cases h; rfl)]

theorem takeUntil_not (p : Char → Bool) (s : Str) : ∀ c ∈ (takeUntil p s).1, p c = false := by
  fun_induction takeUntil p s with
  | case1 => simp
  | case2 => simp
  | case3 c r h a b e ih =>
    rw [e] at ih
    exact List.forall_mem_cons.mpr ⟨by simpa using h, ih⟩

theorem trimEnd_id (s : Str) (h : ∀ c, s.getLast? = some c → isWs c = false) : trimEnd s = s := by
  obtain ⟨l, rfl⟩ : ∃ l, s = l.reverse := ⟨s.reverse, (List.reverse_reverse s).symm⟩
  rw [List.getLast?_reverse] at h
  rw [trimEnd, List.reverse_reverse]
  cases l with
  | nil => rfl
  | cons c r => rw [List.dropWhile_cons, h c rfl]; rfl

def stopKey (c : Char) : Bool := c == '=' || c == ' ' || c == '\t' || c == '\n' || c == '\r'

structure WFEntry (env : Env) (k v : Str) : Prop where
  keyChars : k.all env.keyChar = true
  keyNoStop : ∀ c ∈ k, stopKey c = false
  bs : bsOK v = true
  noLead : ∀ c, v.head? = some c → isSpTab c = false
  noTrail : ∀ c, v.getLast? = some c → isWs c = false

structure WFLine (env : Env) (k v : Str) : Prop extends WFEntry env k v where
  keyFirst : ∀ c, k.head? = some c → (c == '#' || c == ';') = false ∧ (c == '[') = false ∧ isAsciiWs c = false

/-- white space opens neither a comment nor a header: the loops test for those first -/
theorem asciiWs_not_marker {c : Char} (h : isAsciiWs c = true) : (c == '#' || c == ';') = false ∧ (c == '[') = false := by
  simp only [isAsciiWs, Bool.or_eq_true, beq_iff_eq] at h
  rcases h with (((rfl | rfl) | rfl) | rfl) | rfl <;> decide

theorem parseBody_ws (env : Env) (fuel : Nat) (c : Char) (r : Str) (h : isAsciiWs c = true) :
    parseBody env (fuel + 1) (c :: r) = parseBody env fuel r := by
  obtain ⟨h1, h2⟩ := asciiWs_not_marker h
  rw [parseBody]
  simp only [h1, h2, h, Bool.false_eq_true, if_false, if_true]

theorem parseBody_nl (env : Env) (fuel : Nat) (r : Str) :
    parseBody env (fuel + 1) ('\n' :: r) = parseBody env fuel r :=
  parseBody_ws env fuel '\n' r rfl

structure WFSec (env : Env) (sec : Str) (es : List (Str × Str)) : Prop where
  nonempty : sec ≠ []
  nameChars : ∀ c ∈ sec, (c == ']' || c == '\n') = false
  lines : ∀ kv ∈ es, WFLine env kv.1 kv.2
  valid : es.all (fun kv => env.validRaw kv.2) = true

theorem parseHeader_printed (sec r : Str) (hne : sec ≠ []) (hc : ∀ c ∈ sec, (c == ']' || c == '\n') = false) :
    parseHeader ('[' :: sec ++ ']' :: r) = .ok (sec, r) := by
  have := takeUntil_append (fun c => c == ']' || c == '\n') sec (']' :: r) hc (fun _ h => by cases h; decide)
  simp only [List.cons_append, parseHeader, this]
  cases sec with
  | nil => exact absurd rfl hne
  | cons _ _ => simp

end Parse
