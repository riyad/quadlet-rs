import Lean.Meta.Tactic.Simp.RegisterCommand
/-! The simp set `seg_local`: a list of command segments is local when each of its segments is; the lemmas that say so for the
    kinds of segments (QM/ConvDelta.lean, QM/ConvArgs.lean) and for `++`, `::` and `map` carry this attribute. -/
register_simp_attr seg_local
