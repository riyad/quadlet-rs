import QM.ConvShape
/-! C16, second half: the only step of a converter that can raise `unknownKey` is the key check itself.  `NoUK r`: the computation `r`
    cannot end in that error.  The proofs follow the shape of the bodies: `NoUK.ite` for an `if`, `NoUK.bind`, `cases` on what a
    `match` inspects. -/
namespace Cv
open MM

def isUK : Err → Bool
  | .unknownKey _ => true
  | _ => false

def NoUK {α} (r : R α) : Prop := ∀ e, r = .error e → isUK e = false

theorem NoUK.ok {α} (a : α) : NoUK (.ok a : R α) := by intro e h; cases h
theorem NoUK.err {α} (e : Err) (h : isUK e = false) : NoUK (.error e : R α) := by
  intro e' he; cases he; exact h
theorem throw_noUK {α} (e : Err) (h : isUK e = false) : NoUK (throw e : R α) := NoUK.err e h

theorem NoUK.bind {α β} {x : R α} {f : α → R β} (hx : NoUK x) (hf : ∀ a, NoUK (f a)) : NoUK (x >>= f) := by
  cases x with
  | error e => exact NoUK.err e (hx e rfl)
  | ok a => exact hf a

theorem NoUK.throw_bind {α β} (e : Err) (h : isUK e = false) (k : α → R β) : NoUK ((MonadExcept.throw e : R α) >>= k) :=
  NoUK.err (α := β) e h

theorem NoUK.ne {α} {r : R α} (h : NoUK r) (k : Str) : r ≠ .error (.unknownKey k) := fun e => Bool.noConfusion (h _ e)

theorem NoUK.ite {α} {c : Prop} [Decidable c] {a b : R α} (ha : NoUK a) (hb : NoUK b) : NoUK (if c then a else b) := by
  split <;> assumption

theorem NoUK.foldlM {α β} (f : β → α → R β) (l : List α) (init : β) (h : ∀ acc x, NoUK (f acc x)) : NoUK (l.foldlM f init) := by
  induction l generalizing init with
  | nil => exact NoUK.ok _
  | cons x xs ih =>
    simp only [List.foldlM_cons]
    exact NoUK.bind (h init x) (fun a => ih a)

theorem checkUnknown_noUK_of_none (u : SUnit) (sec : Str) (sup : List Str) (h : firstUnknown (entriesOf u sec) sup = none) :
    NoUK (checkUnknown u sec sup) := by
  rw [checkUnknown_ok _ _ _ h]; exact NoUK.ok _

/-- the two key checks of every converter, passed (`rejects_own`, `rejects_quadlet` when not) -/
theorem NoUK.checked {α} {u : SUnit} {sec : Str} {sup : List Str} {x : R α}
    (h0 : firstUnknown (entriesOf u sec) sup = none) (h1 : firstUnknown (entriesOf u (s "Quadlet")) supportedQuadlet = none)
    (hx : NoUK x) : NoUK (do checkUnknown u sec sup; checkUnknown u (s "Quadlet") supportedQuadlet; x) :=
  .bind (checkUnknown_noUK_of_none _ _ _ h0) fun _ => .bind (checkUnknown_noUK_of_none _ _ _ h1) fun _ => hx

theorem addRawExec_noUK (svc : SUnit) (k : String) (args : List Str) : NoUK (addRawExec svc k args) := by
  unfold addRawExec; simp only; split
  · exact NoUK.ok _
  · exact NoUK.err _ rfl

theorem killMode_noUK (a b : SUnit) : NoUK (killMode a b) := by
  unfold killMode
  cases lookup a (s "Service") (s "KillMode") with
  | none => exact .ok _
  | some v => exact .ite (.ok _) (.err _ rfl)

theorem swdTarget_noUK (p : Str) (u : SUnit) (sec swd : Str) : NoUK (swdTarget p u sec swd) := by
  unfold swdTarget
  refine .ite (.ite (.err _ rfl) ?_) (.ite (.ite (.err _ rfl) ?_) (.ite (.ok _) (.ite (.err _ rfl) (.ite (.ok _) (.ok _)))))
  · cases lookup u sec (s "Yaml") with
    | none => exact .err _ rfl
    | some y => exact .ok _
  · cases lookup u sec (s "File") with
    | none => exact .err _ rfl
    | some f => exact .ok _

theorem swdPlan_noUK (p : Str) (u : SUnit) (sec : Str) : NoUK (swdPlan p u sec) := by
  unfold swdPlan
  refine .ite (.ok _) ?_
  cases h : swdTarget p u sec ((lookup u sec (s "SetWorkingDirectory")).getD []) with
  | error e => exact .err e (swdTarget_noUK _ _ _ _ e h)
  | ok r =>
    refine .ite (.ite (.ok _) ?_) (.ok _)
    simp only
    cases splitLast '/' (absFromUnit p r.2) with
    | none => exact .ite (.err _ rfl) (.ok _)
    | some d => exact .ite (.err _ rfl) (.ok _)

theorem typeAndNotify_noUK (u : SUnit) (sec : Str) (cmd : List Str) (svc : SUnit) : NoUK (typeAndNotify u sec cmd svc) := by
  unfold typeAndNotify
  cases lookup u (s "Service") (s "Type") with
  | none => exact .ok _
  | some t => exact .ite (.ok _) (.ite (.ok _) (.err _ rfl))

theorem handleUser_noUK (u : SUnit) (sec : Str) : NoUK (handleUser u sec) := by
  unfold handleUser
  cases lookup u sec (s "User") <;> cases lookup u sec (s "Group")
  · exact .ok _
  · exact .ite (.err _ rfl) (.ok _)
  · exact .ite (.ok _) (.ok _)
  · exact .ite (.ok _) (.ok _)

theorem handlePod_noUK (E : Env) (u : SUnit) (sec : Str) (svc : SUnit) (own : Str) : NoUK (handlePod E u sec svc own) := by
  unfold handlePod
  cases lookup u sec (s "Pod") with
  | none => exact .ok _
  | some pod =>
    refine .ite (.ok _) (.ite (.err _ rfl) ?_)
    cases E.info pod with
    | none => exact .err _ rfl
    | some i => exact .ok _

theorem handleUserRemap_noUK (u : SUnit) (sec : Str) (sm : Bool) : NoUK (handleUserRemap u sec sm) := by
  unfold handleUserRemap
  refine .ite (.ok _) ?_
  cases lookup u sec (s "RemapUsers") with
  | none => exact .ite (.throw_bind _ rfl _) (.ite (.throw_bind _ rfl _) (.ok _))
  | some v =>
    exact .ite (.ite (.ok _) (throw_noUK _ rfl)) <| .ite (.ite (.ok _) (.ok _)) <|
      .ite (.ite (.throw_bind _ rfl _) (.ite (.throw_bind _ rfl _) (.ite (.ok _) (.ok _)))) (throw_noUK _ rfl)

theorem handleUserMappings_noUK (u : SUnit) (sec : Str) (sm : Bool) : NoUK (handleUserMappings u sec sm) := by
  unfold handleUserMappings
  exact .ite (.ite (.throw_bind _ rfl _) (.ok _)) (handleUserRemap_noUK u sec sm)

theorem networkSubnets_noUK (u : SUnit) (sec : Str) : NoUK (networkSubnets u sec) := by
  unfold networkSubnets
  exact .ite (.ite (.throw_bind _ rfl _) (.ite (.throw_bind _ rfl _) (.ok _))) (.ite (throw_noUK _ rfl) (.ok _))

end Cv
