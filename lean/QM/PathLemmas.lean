import QM.Path
/-! The buffer of `cleaned` (QM/Path.lean) against the reference on the parts of the path string: for a rooted path it is the root
    followed by the names `Spec.cleanParts` keeps (`fold_abs`, for C17); for a relative path it is some `..` followed by names
    (`relShape`, for the aliases of C12). -/
namespace Pth

/-- what `components` makes of a part of the path that is not the first (`components_eq`) -/
def g' (x : Str) : Option Comp :=
  if x.isEmpty then none else if x == dot then none else if x == dotdot then some Comp.parent else some (Comp.normal x)

/-- the step of `Spec.cleanParts` (`cleanParts_eq_fold`) -/
def specStep (st : List Str) (x : Str) : List Str :=
  if x.isEmpty || x == dot then st else if x == dotdot then st.dropLast else st ++ [x]

def isNormal (x : Str) : Bool := !x.isEmpty && !(x == dot) && !(x == dotdot)

theorem isAbs_append (a b : Str) (hne : a ≠ []) : isAbs (a ++ b) = isAbs a := by
  cases a with
  | nil => exact absurd rfl hne
  | cons c r => rfl

theorem isAbs_of_not_mem (a : Str) (h : '/' ∉ a) : isAbs a = false := by
  cases a with
  | nil => rfl
  | cons c r => simpa [isAbs] using fun e : c = '/' => h (e ▸ List.mem_cons_self)

theorem g'_eq_some (x : Str) (c : Comp) (h : g' x = some c) : (x = dotdot ∧ c = Comp.parent) ∨ (isNormal x = true ∧ c = Comp.normal x) := by
  unfold g' at h
  unfold isNormal
  cases h1 : x.isEmpty <;> cases h2 : x == dot <;> cases h3 : x == dotdot <;> simp_all

theorem specStep_eq (st : List Str) (x : Str) :
    specStep st x = match g' x with
      | none => st
      | some (Comp.normal y) => st ++ [y]
      | some _ => st.dropLast := by
  unfold specStep g'
  cases x.isEmpty <;> cases x == dot <;> cases x == dotdot <;> rfl

theorem specStep_of_normal (st : List Str) {x : Str} (h : isNormal x = true) : specStep st x = st ++ [x] := by
  simp only [isNormal, Bool.and_eq_true, Bool.not_eq_true'] at h
  simp [specStep, h.1.1, h.1.2, h.2]

theorem specStep_dotdot (st : List Str) : specStep st dotdot = st.dropLast := rfl

theorem cleanStep_pop (hd : List Comp) (xs : List Str) (x : Str) :
    cleanStep (hd ++ (xs ++ [x]).map Comp.normal) Comp.parent = hd ++ xs.map Comp.normal := by
  simp only [List.map_append, List.map_cons, List.map_nil, ← List.append_assoc, cleanStep, List.getLast?_concat, List.dropLast_concat]

theorem cleanStep_abs (st : List Str) {x : Str} {c : Comp} (h : g' x = some c) :
    cleanStep (Comp.root :: st.map Comp.normal) c = Comp.root :: (specStep st x).map Comp.normal := by
  rcases g'_eq_some x c h with ⟨rfl, rfl⟩ | ⟨hn, rfl⟩
  · rw [specStep_dotdot]
    rcases List.eq_nil_or_concat st with rfl | ⟨ys, y, rfl⟩
    · rfl
    · rw [List.concat_eq_append, ← List.singleton_append (x := Comp.root), cleanStep_pop, List.dropLast_concat]; rfl
  · rw [specStep_of_normal st hn]; simp [cleanStep]

theorem fold_abs (parts : List Str) (st : List Str) :
    (parts.filterMap g').foldl cleanStep (Comp.root :: st.map Comp.normal)
      = Comp.root :: (parts.foldl specStep st).map Comp.normal := by
  induction parts generalizing st with
  | nil => rfl
  | cons x parts ih =>
    rw [List.filterMap_cons, List.foldl_cons]
    cases hg : g' x with
    | none => rw [specStep_eq, hg]; exact ih st
    | some c => rw [List.foldl_cons, cleanStep_abs st hg]; exact ih _

theorem down_up (xs : List Str) (hx : ∀ x ∈ xs, isNormal x = true) (st : List Str) :
    (xs ++ List.replicate xs.length dotdot).foldl specStep st = st := by
  induction xs generalizing st with
  | nil => rfl
  | cons x xs ih =>
    rw [List.cons_append, List.foldl_cons, specStep_of_normal st (hx x List.mem_cons_self), List.length_cons, List.replicate_succ',
      ← List.append_assoc, List.foldl_append, ih fun y hy => hx y (List.mem_cons_of_mem _ hy), List.foldl_cons, List.foldl_nil,
      specStep_dotdot, List.dropLast_concat]

theorem splitSlash_ne_nil (p : Str) : splitSlash p ≠ [] := by
  cases p with
  | nil => simp [splitSlash]
  | cons c r => simp only [splitSlash]; split <;> (try split) <;> simp

theorem splitSlash_noSlash (a : Str) (h : '/' ∉ a) : splitSlash a = [a] := by
  induction a with
  | nil => rfl
  | cons c r ih =>
    obtain ⟨hc, hr⟩ : ¬c = '/' ∧ '/' ∉ r := by simpa [eq_comm] using h
    simp [splitSlash, hc, ih hr]

theorem splitSlash_append (a b : Str) (h : '/' ∉ a) : splitSlash (a ++ '/' :: b) = a :: splitSlash b := by
  induction a with
  | nil => simp [splitSlash]
  | cons c r ih =>
    obtain ⟨hc, hr⟩ : ¬c = '/' ∧ '/' ∉ r := by simpa [eq_comm] using h
    simp [splitSlash, hc, ih hr]

theorem splitSlash_parts_noSlash (p : Str) : ∀ x ∈ splitSlash p, '/' ∉ x := by
  induction p with
  | nil => simp [splitSlash]
  | cons c r ih =>
    -- a character opens a new part or joins the first part of the rest
    obtain ⟨q, qs, hs⟩ := List.exists_cons_of_ne_nil (splitSlash_ne_nil r)
    rw [hs] at ih
    by_cases hc : c = '/'
    · simpa [splitSlash, hc, hs] using ih
    · simpa [splitSlash, hc, hs, Ne.symm hc] using ih

theorem splitSlash_names (x : Str) (xs : List Str) (hx : '/' ∉ x) (hxs : ∀ y ∈ xs, '/' ∉ y) :
    splitSlash (x ++ xs.flatMap ('/' :: ·)) = x :: xs := by
  induction xs generalizing x with
  | nil => simpa using splitSlash_noSlash x hx
  | cons y ys ih =>
    simp only [List.flatMap_cons, List.cons_append]
    rw [splitSlash_append x _ hx, ih y (hxs y (by simp)) (fun z hz => hxs z (by simp [hz]))]

theorem filterMap_zipIdx_succ {α β} (F : α × Nat → Option β) (g : α → Option β) (l : List α) (k : Nat)
    (h : ∀ a i, F (a, i + 1) = g a) : (l.zipIdx (k + 1)).filterMap F = l.filterMap g := by
  induction l generalizing k with
  | nil => rfl
  | cons a l ih => simp only [List.zipIdx_cons, List.filterMap_cons, h, ih]

/-- `Path::components`: RootDir for a rooted path, CurDir for a leading ".", then the parts that are neither empty nor "." -/
theorem components_eq (p : Str) :
    components p = (if isAbs p then [Comp.root] else if (splitSlash p).head? = some dot then [Comp.cur] else [])
      ++ (splitSlash p).filterMap g' := by
  unfold components
  cases hs : splitSlash p with
  | nil => exact absurd hs (splitSlash_ne_nil p)
  | cons x xs =>
    simp only [List.zipIdx_cons, List.filterMap_cons, Nat.zero_add, List.head?_cons, Option.some.injEq]
    rw [filterMap_zipIdx_succ _ g' xs 0 (fun a i => by simp [g'])]
    -- only for "." does the first part differ from the later ones
    by_cases h : x = dot
    · cases isAbs p <;> simp [g', h, dot]
    · cases isAbs p <;> simp [g', h]

theorem components_abs (p : Str) (h : isAbs p = true) :
    components p = Comp.root :: (splitSlash p).filterMap g' := by
  rw [components_eq, if_pos h]; rfl

theorem render_normals (x : Str) (xs : List Str) :
    render ((x :: xs).map Comp.normal) = x ++ xs.flatMap ('/' :: ·) := by
  induction xs generalizing x with
  | nil => simp [render, compStr]
  | cons y ys ih =>
    simp only [List.map_cons] at ih ⊢
    rw [render]
    · rw [ih y]; simp [compStr]
    · intro h; cases h

theorem render_root_normals (xs : List Str) :
    render (Comp.root :: xs.map Comp.normal) = match xs with
      | [] => ['/']
      | _ => xs.flatMap ('/' :: ·) := by
  cases xs with
  | nil => simp [render, compStr]
  | cons x xs =>
    show '/' :: render ((x :: xs).map Comp.normal) = _
    rw [render_normals]; rfl

theorem cleanParts_eq_fold (parts : List Str) : Spec.cleanParts parts = parts.foldl specStep [] := rfl

theorem specStep_normal (st : List Str) (x : Str) (h : ∀ y ∈ st, isNormal y = true) :
    ∀ y ∈ specStep st x, isNormal y = true := by
  unfold specStep
  split
  · exact h
  · split
    · exact fun y hy => h y (List.dropLast_subset _ hy)
    · rename_i h1 h2
      simp only [List.mem_append, List.mem_singleton]
      rintro y (hy | rfl)
      · exact h y hy
      · simpa [isNormal, and_assoc] using And.intro h1 h2

theorem fold_specStep_normal (parts st : List Str) (h : ∀ y ∈ st, isNormal y = true) :
    ∀ y ∈ parts.foldl specStep st, isNormal y = true :=
  List.foldlRecOn parts specStep h fun st h x _ => specStep_normal st x h

theorem C12_resolves (outParts xs : List Str) (svc : Str) (hx : ∀ x ∈ xs, isNormal x = true)
    (hs : isNormal svc = true) :
    (outParts ++ (xs ++ List.replicate xs.length dotdot) ++ [svc]).foldl specStep []
      = outParts.foldl specStep [] ++ [svc] := by
  rw [List.foldl_append, List.foldl_append, down_up xs hx, List.foldl_cons, List.foldl_nil, specStep_of_normal _ hs]

def isNormalC : Comp → Bool
  | .normal _ => true
  | _ => false

def relShape (P : Str → Prop) (st : List Comp) : Prop :=
  ∃ (k : Nat) (xs : List Str), st = List.replicate k Comp.parent ++ xs.map Comp.normal ∧ ∀ x ∈ xs, P x

theorem relShape_nil (P : Str → Prop) : relShape P [] := ⟨0, [], rfl, fun _ h => absurd h List.not_mem_nil⟩

def relComp (P : Str → Prop) : Comp → Prop
  | .root => False
  | .normal x => P x
  | _ => True

theorem cleanStep_relShape (P : Str → Prop) (st : List Comp) (c : Comp) (h : relShape P st) (hc : relComp P c) :
    relShape P (cleanStep st c) := by
  obtain ⟨k, xs, rfl, hxs⟩ := h
  cases c with
  | root => exact hc.elim
  | cur => exact ⟨k, xs, rfl, hxs⟩
  | normal x =>
    refine ⟨k, xs ++ [x], by simp [cleanStep], fun y hy => ?_⟩
    rcases List.mem_append.mp hy with hy | hy
    · exact hxs y hy
    · rwa [List.mem_singleton.mp hy]
  | parent =>
    rcases List.eq_nil_or_concat xs with rfl | ⟨ys, y, rfl⟩
    · -- only leading ".." so far (or nothing): one more ".."
      refine ⟨k + 1, [], ?_, by simp⟩
      cases k with
      | zero => simp [cleanStep]
      | succ n => simp [cleanStep, List.replicate_succ']
    · exact ⟨k, ys, by rw [List.concat_eq_append, cleanStep_pop], fun x hx => hxs x (by simp [hx])⟩

theorem fold_relShape (P : Str → Prop) (cs st : List Comp) (hcs : ∀ c ∈ cs, relComp P c) (h : relShape P st) :
    relShape P (cs.foldl cleanStep st) :=
  List.foldlRecOn cs cleanStep h fun st h c hc => cleanStep_relShape P st c h (hcs c hc)

theorem clean_eq_spec (p : Str) (h : isAbs p = true) : cleaned p = Spec.clean p := by
  -- both sides fold over the parts; the buffer of `cleaned` is the root followed by the reference's names (`fold_abs`)
  rw [cleaned, Spec.clean, components_abs p h, List.foldl_cons,
    show cleanStep [] Comp.root = Comp.root :: ([] : List Str).map Comp.normal from rfl, fold_abs, render_root_normals, cleanParts_eq_fold]
  cases List.foldl specStep [] (splitSlash p) <;> rfl

theorem isAbs_clean (p : Str) : isAbs (Spec.clean p) = true := by
  rw [Spec.clean]
  cases Spec.cleanParts (splitSlash p) <;> rfl

theorem isAbs_cleaned (p : Str) (h : isAbs p = true) : isAbs (cleaned p) = true := by
  rw [clean_eq_spec p h]; exact isAbs_clean p

theorem isAbs_joinPath (root p : Str) (hr : isAbs root = true) : isAbs (joinPath root p) = true := by
  have hne : root ≠ [] := fun e => by rw [e] at hr; cases hr
  unfold joinPath
  split
  · assumption
  · rw [if_neg (by simpa using hne)]
    split <;> rwa [isAbs_append _ _ hne]

end Pth
