/-! How `generate_service_file` (main.rs) writes a service file through a `BufWriter` to a sink that may fail, counted in bytes, and
    the write loop of `process` around it. -/
namespace Wr

/-- BufWriter over a sink that accepts `limit` bytes in total and then fails every write
    (`limit = 0` is /dev/full). Only byte counts matter for the property. -/
structure W where
  buf : Nat        -- bytes sitting in the buffer
  written : Nat    -- bytes the sink has accepted
  deriving Repr

def flushBuf (limit : Nat) (w : W) : Option W :=
  if w.written + w.buf ≤ limit then some { buf := 0, written := w.written + w.buf } else none

/-- BufWriter::write_all for one chunk of `n` bytes (std's algorithm: spill first if the chunk does
    not fit, write through if the chunk is at least as large as the buffer, else buffer it) -/
def writeAll (limit cap : Nat) (w : W) (n : Nat) : Option W :=
  (if w.buf + n > cap then flushBuf limit w else some w).bind fun w1 =>
    if n ≥ cap then
      (if w1.written + n ≤ limit then some { w1 with written := w1.written + n } else none)
    else some { w1 with buf := w1.buf + n }

def writeChunks (limit cap : Nat) : W → List Nat → Option W
  | w, [] => some w
  | w, n :: ns => (writeAll limit cap w n).bind (writeChunks limit cap · ns)

/-- generate_service_file after File::create succeeded: write the chunks, then (repaired code only)
    flush explicitly; the buffer is flushed again on drop with the result discarded. true = Ok(()) -/
def generate (fixed : Bool) (limit cap : Nat) (chunks : List Nat) : Bool :=
  match writeChunks limit cap ⟨0, 0⟩ chunks with
  | none => false
  | some w => if fixed then (flushBuf limit w).isSome else true

/-- what a writer state may look like after `total` bytes were handed over: all bytes accounted for (buffered or accepted) within
    the sink's limit — or an error, and then the bytes handed over so far exceed the limit -/
def Accounts (limit total : Nat) : Option W → Prop
  | some w' => w'.buf + w'.written = total ∧ w'.written ≤ limit
  | none => limit < total

theorem Accounts.bind {limit t t' : Nat} {o : Option W} {f : W → Option W} (h : Accounts limit t o) (ht : t ≤ t')
    (hf : ∀ w, w.buf + w.written = t → w.written ≤ limit → Accounts limit t' (f w)) : Accounts limit t' (o.bind f) := by
  cases o with
  | none => exact Nat.lt_of_lt_of_le h ht
  | some w => exact hf w h.1 h.2

theorem flushBuf_spec (limit : Nat) (w : W) : Accounts limit (w.buf + w.written) (flushBuf limit w) := by
  unfold flushBuf
  split
  · exact ⟨by simp only; omega, by simp only; omega⟩
  · show limit < _; omega

theorem writeAll_spec (limit cap : Nat) (w : W) (n : Nat) (hw : w.written ≤ limit) :
    Accounts limit (w.buf + w.written + n) (writeAll limit cap w n) := by
  unfold writeAll
  refine Accounts.bind (t := w.buf + w.written) ?_ (Nat.le_add_right _ _) fun w1 e h1 => ?_
  · split
    · exact flushBuf_spec limit w
    · exact ⟨rfl, hw⟩
  · split
    · split
      · exact ⟨by simp only; omega, by simp only; omega⟩
      · show limit < _; omega
    · exact ⟨by simp only; omega, h1⟩

theorem writeChunks_spec (limit cap : Nat) (chunks : List Nat) (w : W) (hw : w.written ≤ limit) :
    Accounts limit (w.buf + w.written + chunks.sum) (writeChunks limit cap w chunks) := by
  induction chunks generalizing w with
  | nil => exact ⟨rfl, hw⟩
  | cons n ns ih =>
    rw [writeChunks, List.sum_cons, ← Nat.add_assoc]
    exact (writeAll_spec limit cap w n hw).bind (Nat.le_add_right _ _) fun w1 e h1 => e ▸ ih w1 h1

/-- the repaired `generate_service_file` succeeds exactly when the sink can take the whole file -/
theorem generate_fixed (limit cap : Nat) (chunks : List Nat) : generate true limit cap chunks = decide (chunks.sum ≤ limit) := by
  have h := writeChunks_spec limit cap chunks ⟨0, 0⟩ (Nat.zero_le _)
  simp only [Nat.zero_add] at h
  unfold generate
  generalize writeChunks limit cap ⟨0, 0⟩ chunks = o at h ⊢
  cases o with
  | none => exact (decide_eq_false (Nat.not_le.mpr h)).symm
  | some w =>
    simp only [if_true, flushBuf]
    rw [← h.1, Nat.add_comm]
    split <;> simp [*]

inductive Fault
  | none
  | create               -- File::create fails (path occupied by a directory, read-only location, …)
  | sink (limit : Nat)   -- the sink accepts `limit` bytes in total and then fails (0 = /dev/full)

structure Job where
  name : List Char       -- service file
  chunks : List Nat      -- sizes of the pieces handed to the writer (header line, then write_to's writeln!s)

structure Outcome where
  errors : List (List Char)    -- service paths mentioned in logged errors
  written : List (List Char)
  enabled : List (List Char)

/-- generate_service_file: Ok(()) or Err -/
def writeOne (cap : Nat) (f : Fault) (j : Job) : Bool :=
  match f with
  | .none => true
  | .create => false
  | .sink l => generate true l cap j.chunks

/-- the loop: a failing unit is recorded and skipped (`continue`), it is not enabled; the others go on -/
def loopStep (cap : Nat) (o : Outcome) (jf : Job × Fault) : Outcome :=
  if writeOne cap jf.2 jf.1 then { o with written := o.written ++ [jf.1.name], enabled := o.enabled ++ [jf.1.name] }
  else { o with errors := o.errors ++ [jf.1.name] }

def runWrites (cap : Nat) (jobs : List (Job × Fault)) : Outcome := jobs.foldl (loopStep cap) ⟨[], [], []⟩

def exitStatus (o : Outcome) : Nat := if o.errors.isEmpty then 0 else 1

/-! ### the loop in closed form: whose writes succeed is decided job by job -/

def namesWhere (cap : Nat) (ok : Bool) (jobs : List (Job × Fault)) : List (List Char) :=
  (jobs.filter fun jf => writeOne cap jf.2 jf.1 == ok).map (·.1.name)

theorem foldl_loopStep (cap : Nat) (jobs : List (Job × Fault)) (o : Outcome) :
    jobs.foldl (loopStep cap) o =
      ⟨o.errors ++ namesWhere cap false jobs, o.written ++ namesWhere cap true jobs, o.enabled ++ namesWhere cap true jobs⟩ := by
  induction jobs generalizing o with
  | nil => simp [namesWhere]
  | cons jf jobs ih =>
    rw [List.foldl_cons, ih, loopStep]
    cases hw : writeOne cap jf.2 jf.1 <;> simp [namesWhere, hw]

theorem runWrites_eq (cap : Nat) (jobs : List (Job × Fault)) :
    runWrites cap jobs = ⟨namesWhere cap false jobs, namesWhere cap true jobs, namesWhere cap true jobs⟩ := by
  rw [runWrites, foldl_loopStep]; rfl

theorem mem_namesWhere {cap : Nat} {ok : Bool} {jobs : List (Job × Fault)} {n : List Char} :
    n ∈ namesWhere cap ok jobs ↔ ∃ jf ∈ jobs, writeOne cap jf.2 jf.1 = ok ∧ jf.1.name = n := by
  simp [namesWhere, and_assoc]

/-! The exit status as `exitStatus` and `Cv.ProcOut.exit` (QM/Run.lean) compute it from a list of errors. -/

theorem status_eq_zero {α} (errs : List α) : (if errs.isEmpty then 0 else 1) = 0 ↔ errs = [] := by
  cases errs <;> simp

theorem status_eq_one {α} {errs : List α} {e : α} (h : e ∈ errs) : (if errs.isEmpty then 0 else 1) = 1 := by
  rw [List.isEmpty_eq_false_iff_exists_mem.mpr ⟨e, h⟩]; rfl

theorem exitStatus_eq_zero (o : Outcome) : exitStatus o = 0 ↔ o.errors = [] := status_eq_zero o.errors

theorem exitStatus_of_mem {o : Outcome} {n : List Char} (h : n ∈ o.errors) : exitStatus o = 1 := status_eq_one h

end Wr
