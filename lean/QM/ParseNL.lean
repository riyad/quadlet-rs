import QM.ParseRT
/-! What the reader guarantees of a loaded unit, both as invariants of the unit loop (`parseUnit_inv`): no newline in any section
    name, key or raw value (a value is one logical line; continuation lines are joined with a blank), and every raw value passed
    the validation. -/
namespace Parse

theorem pv_all (P : Char → Prop) (hsp : P ' ') (hbs : P '\\') (m : Mode) (ign : Nat) (acc s : Str)
    (hacc : ∀ c ∈ acc, P c) (hs : ∀ c ∈ s, c ≠ '\n' → P c) : ∀ c ∈ (pv m ign acc s).1, P c := by
  -- the fourteen branches of `pv`, in the order of its text, grouped by what they push on `acc`
  fun_induction pv m ign acc s with
  -- the value ends here
  | case1 | case3 | case9 | case10 => simpa using hacc
  -- nothing: the character is a backslash, a blank after one, or part of a comment between continuation lines
  | case2 _ _ _ _ _ ih | case5 _ _ _ _ _ ih | case8 _ _ _ _ _ ih | case11 _ _ _ _ _ _ _ _ ih | case13 _ _ _ _ _ ih
  | case14 _ _ _ _ _ ih => exact ih hacc fun a ha => hs a (List.mem_cons_of_mem _ ha)
  -- the character itself, which is no newline
  | case4 _ _ c _ _ h ih | case12 _ _ c _ _ h _ _ ih =>
    exact ih (List.forall_mem_cons.mpr ⟨hs c List.mem_cons_self (by simpa using h), hacc⟩)
      fun a ha => hs a (List.mem_cons_of_mem _ ha)
  -- a blank for the line break after a backslash
  | case6 _ _ _ _ _ _ ih =>
    exact ih (List.forall_mem_cons.mpr ⟨hsp, hacc⟩) fun a ha => hs a (List.mem_cons_of_mem _ ha)
  -- the backslash was no continuation: the character, the blanks skipped after the backslash, and the backslash
  | case7 ign acc c r _ h ih =>
    refine ih (fun a ha => ?_) fun a ha => hs a (List.mem_cons_of_mem _ ha)
    simp only [List.mem_cons, List.mem_append, List.mem_replicate] at ha
    rcases ha with rfl | ⟨_, rfl⟩ | rfl | ha
    · exact hs _ List.mem_cons_self (by simpa using h)
    · exact hsp
    · exact hbs
    · exact hacc a ha

theorem parseValue_noNL (s : Str) : '\n' ∉ (parseValue s).1 := fun hm =>
  pv_all (· ≠ '\n') (by decide) (by decide) .normal 0 [] s (by simp) (fun _ _ h => h) '\n'
    (List.mem_reverse.mp ((List.dropWhile_sublist _).subset (List.mem_reverse.mp hm))) rfl

theorem parseEntry_noNL (env : Env) (s : Str) (kv : Str × Str) (rest : Str) (h : parseEntry env s = .ok (kv, rest)) :
    '\n' ∉ kv.1 ∧ '\n' ∉ kv.2 := by
  unfold parseEntry at h
  simp only at h
  split at h
  · cases h
  · split at h
    · cases h
      exact ⟨fun hm => by simpa using takeUntil_not _ s '\n' hm, parseValue_noNL _⟩
    · cases h

theorem parseHeader_noNL (s name r : Str) (h : parseHeader s = .ok (name, r)) : '\n' ∉ name := by
  unfold parseHeader at h
  split at h
  · simp only at h
    split at h
    · split at h
      · cases h
      · cases h; exact fun hm => by simpa using takeUntil_not _ _ '\n' hm
    · cases h
  · cases h

theorem parseBody_mem (env : Env) (fuel : Nat) (s : Str) (es : List (Str × Str)) (rest : Str)
    (h : parseBody env fuel s = .ok (es, rest)) : ∀ kv ∈ es, ∃ s' rest', parseEntry env s' = .ok (kv, rest') := by
  fun_induction parseBody env fuel s generalizing es rest with
  | case1 | case6 | case7 => cases h
  | case2 | case4 => cases h; simp
  | case3 _ _ _ _ ih | case5 _ _ _ _ _ _ ih => exact ih es rest h
  | case8 _ c r _ _ _ kv rest₁ he kvs rest₂ hb ih =>
    cases h
    exact List.forall_mem_cons.mpr ⟨⟨_, _, he⟩, ih kvs rest₂ hb⟩

theorem parseUnit_inv (env : Env) (I : Unit → Prop)
    (hstep : ∀ u s name r' es rest, I u → parseHeader s = .ok (name, r') → parseBody env (r'.length + 1) r' = .ok (es, rest) →
      es.all (fun kv => env.validRaw kv.2) = true → I (addEntries u name es))
    (fuel : Nat) (u : Unit) (s : Str) (r : Unit) (hu : I u) (h : parseUnit env fuel u s = .ok r) : I r := by
  fun_induction parseUnit env fuel u s with
  | case1 | case4 | case5 | case7 | case8 | case10 => cases h
  | case2 => cases h; exact hu
  | case3 _ _ _ _ _ ih | case9 _ _ _ _ _ _ _ ih => exact ih hu h
  | case6 _ u c r _ _ name r' hh kvs rest hb hall _ ih => exact ih (hstep u _ name r' kvs rest hu hh hb hall) h

def NoNL (u : Unit) : Prop := ∀ p ∈ u, '\n' ∉ p.1 ∧ ∀ kv ∈ p.2, '\n' ∉ kv.1 ∧ '\n' ∉ kv.2

theorem forall_mem_addEntries (P : Str × List (Str × Str) → Prop) (u : Unit) (sec : Str) (es : List (Str × Str))
    (hu : ∀ p ∈ u, P p) (happ : ∀ p ∈ u, P (p.1, p.2 ++ es)) (hnew : P (sec, es)) : ∀ p ∈ addEntries u sec es, P p := by
  unfold addEntries
  split
  · intro p hp
    obtain ⟨p0, hp0, rfl⟩ := List.mem_map.mp hp
    split
    · exact happ p0 hp0
    · exact hu p0 hp0
  · intro p hp
    rcases List.mem_append.mp hp with h | h
    · exact hu p h
    · rw [List.mem_singleton.mp h]; exact hnew

theorem parse_noNL (env : Env) (s : Str) (u : Unit) (h : parse env s = .ok u) : NoNL u := by
  refine parseUnit_inv env NoNL (fun u s name r' es rest hu hh hb _ => ?_) _ [] s u (fun _ hp => nomatch hp) h
  have hes : ∀ kv ∈ es, '\n' ∉ kv.1 ∧ '\n' ∉ kv.2 := fun kv hkv =>
    let ⟨_, _, he⟩ := parseBody_mem env _ _ _ _ hb kv hkv
    parseEntry_noNL env _ _ _ he
  exact forall_mem_addEntries _ u name es hu
    (fun p hp => ⟨(hu p hp).1, fun kv hkv => (List.mem_append.mp hkv).elim ((hu p hp).2 kv) (hes kv)⟩)
    ⟨parseHeader_noNL _ _ _ hh, hes⟩

def AllValid (env : Env) (u : Unit) : Prop := ∀ p ∈ u, ∀ kv ∈ p.2, env.validRaw kv.2 = true

/-- every raw value of a successfully loaded unit passed the validation of `add_raw` (behind C11: the `expect`s in
    `EntryValue::unquote`, value.rs, cannot fire on what was read from a file) -/
theorem parse_valid (env : Env) (s : Str) (u : Unit) (h : parse env s = .ok u) : AllValid env u :=
  parseUnit_inv env (AllValid env) (fun u _ name _ es _ hu _ _ hall =>
    have hes : ∀ kv ∈ es, env.validRaw kv.2 = true := fun kv hkv => List.all_eq_true.mp hall kv hkv
    forall_mem_addEntries _ u name es hu (fun p hp kv hkv => (List.mem_append.mp hkv).elim (hu p hp kv) (hes kv)) hes)
    _ [] s u (fun _ hp => nomatch hp) h

end Parse
