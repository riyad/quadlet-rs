import QM.ConvArgs
/-! C16, acceptance: a converter given documented keys only cannot end in an unknown-key error (`NoUK`, QM/ConvNoUK.lean). -/
namespace Cv
open MM

theorem selfInfo_noUK (E : Env) (n : Str) (e : Err) (he : isUK e = false) :
    NoUK (match E.info n with | some i => pure i | none => throw e : R Info) := by
  cases E.info n with
  | none => exact throw_noUK _ he
  | some i => exact .ok _

/-! Each proof below goes down the body of its converter, one step per statement of the `do` block: `.ite (.throw_bind …)` for a
    guard `if c then throw e` (what follows the `throw` is dropped unseen), `.bind` with the fact about the handler that is run. -/

theorem fromImage_noUK (E : Env) (path : Str) (u : SUnit)
    (h0 : firstUnknown (entriesOf u (s "Image")) supportedImage = none)
    (h1 : firstUnknown (entriesOf u (s "Quadlet")) supportedQuadlet = none) : NoUK (fromImage E path u) := by
  unfold fromImage
  exact .checked h0 h1 <| .ite (.throw_bind _ rfl _) <| .bind (addRawExec_noUK _ _ _) fun _ => .ok _

theorem fromNetwork_noUK (E : Env) (path : Str) (u : SUnit)
    (h0 : firstUnknown (entriesOf u (s "Network")) supportedNetwork = none)
    (h1 : firstUnknown (entriesOf u (s "Quadlet")) supportedQuadlet = none) : NoUK (fromNetwork E path u) := by
  unfold fromNetwork
  exact .checked h0 h1 <| .bind (networkSubnets_noUK _ _) fun _ => .bind (addRawExec_noUK _ _ _) fun _ => .ok _

theorem fromVolume_noUK (E : Env) (path : Str) (u : SUnit)
    (h0 : firstUnknown (entriesOf u (s "Volume")) supportedVolume = none)
    (h1 : firstUnknown (entriesOf u (s "Quadlet")) supportedQuadlet = none) : NoUK (fromVolume E path u) := by
  unfold fromVolume
  exact .checked h0 h1 <| .bind (volumeOpts_along ..).noUK fun (_, _) => .bind (addRawExec_noUK _ _ _) fun _ => .ok _

theorem fromPod_noUK (E : Env) (path : Str) (u : SUnit) (cts : List Str)
    (h0 : firstUnknown (entriesOf u (s "Pod")) supportedPod = none)
    (h1 : firstUnknown (entriesOf u (s "Quadlet")) supportedQuadlet = none) : NoUK (fromPod E path u cts) := by
  unfold fromPod
  exact .checked h0 h1 <| .bind (addRawExec_noUK _ _ _) fun _ => .bind (addRawExec_noUK _ _ _) fun _ =>
    .bind (addRawExec_noUK _ _ _) fun _ => .bind (handleUserMappings_noUK _ _ _) fun _ =>
    .bind (handleNetworks_along ..).noUK fun (_, _) => .bind (handleVolumes_along ..).noUK fun (_, _) =>
    .bind (addRawExec_noUK _ _ _) fun _ => .ok _

theorem fromKube_noUK (E : Env) (path : Str) (u : SUnit)
    (h0 : firstUnknown (entriesOf u (s "Kube")) supportedKube = none)
    (h1 : firstUnknown (entriesOf u (s "Quadlet")) supportedQuadlet = none) : NoUK (fromKube E path u) := by
  unfold fromKube
  refine .checked h0 h1 <| .ite (.throw_bind _ rfl _) <| .bind (killMode_noUK _ _) fun svc => .bind ?_ fun _ =>
    .bind (handleUserMappings_noUK _ _ _) fun _ => .bind (handleNetworks_along ..).noUK fun (_, _) =>
    .bind (addRawExec_noUK _ _ _) fun _ => .bind (addRawExec_noUK _ _ _) fun _ =>
    .bind (handleSetWorkingDirectory_along ..).noUK fun (_, _) => .ok _
  cases lookup _ (s "Service") (s "Type") with
  | none => exact .ok _
  | some t => exact .ite (.ok _) (.ok _)

theorem fromBuild_noUK (E : Env) (path : Str) (u : SUnit)
    (h0 : firstUnknown (entriesOf u (s "Build")) supportedBuild = none)
    (h1 : firstUnknown (entriesOf u (s "Quadlet")) supportedQuadlet = none) : NoUK (fromBuild E path u) := by
  unfold fromBuild
  refine .bind (selfInfo_noUK _ _ _ rfl) fun _ => .ite (.throw_bind _ rfl _) <| .checked h0 h1 <|
    .bind (handleNetworks_along ..).noUK fun (_, _) => .bind (handleVolumes_along ..).noUK fun (_, _) =>
    .bind (handleSetWorkingDirectory_along ..).noUK fun (_, svc) => .bind ?_ fun (_, _) =>
    .bind (.ite (.ok _) (.ite (.ite (throw_noUK _ rfl) (.ok _)) (.ok _))) fun _ => .bind (addRawExec_noUK _ _ _) fun _ => .ok _
  cases lookup svc (s "Service") (s "WorkingDirectory") <;> cases lookup u (s "Build") (s "File")
  · exact .ite (throw_noUK _ rfl) (.ok _)
  · exact .ite (throw_noUK _ rfl) (.ok _)
  · exact .ite (throw_noUK _ rfl) (.ok _)
  · exact .ok _

theorem fromContainer_noUK (E : Env) (path : Str) (u : SUnit) (r : R (SUnit × Option (Str × Str)))
    (h0 : firstUnknown (entriesOf u (s "Container")) supportedContainer = none)
    (h1 : firstUnknown (entriesOf u (s "Quadlet")) supportedQuadlet = none)
    (h : fromContainer E path u = some r) : NoUK r := by
  unfold fromContainer at h
  cases (Option.ite_none_left_eq_some.mp h).2
  exact .bind (selfInfo_noUK _ _ _ rfl) fun _ => .checked h0 h1 <| .ite (.throw_bind _ rfl _) <| .ite (.throw_bind _ rfl _) <|
    .bind (.ite (handleImageSource_along ..).noUK (.ok _)) fun (_, _) => .bind (killMode_noUK _ _) fun _ =>
    .bind (addRawExec_noUK _ _ _) fun _ => .bind (addRawExec_noUK _ _ _) fun _ => .bind (handleNetworks_along ..).noUK fun (_, _) =>
    .bind (typeAndNotify_noUK _ _ _ _) fun (_, _) => .bind (handleUser_noUK _ _) fun _ => .bind (handleUserMappings_noUK _ _ _) fun _ =>
    .bind (handleVolumes_along ..).noUK fun (_, _) =>
    .bind (.foldlM _ _ _ fun _ _ => .ite (.ok _) (throw_noUK _ rfl)) fun _ => .bind (mounts_along ..).noUK fun (_, _) =>
    .bind (handlePod_noUK _ _ _ _ _) fun (_, _, _) => .bind (addRawExec_noUK _ _ _) fun _ => .ok _

end Cv
