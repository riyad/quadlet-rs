/-! `is_port_range` (convert.rs, after the D7 repair: both `break`s ask for a digit), one function per loop, against the regular
    expression of its comment as a grammar (`Spec`); `p1_iff` is the equivalence, C20 its instance at `d = 0`. -/
namespace Port
abbrev Str := List Char

def isDigit (c : Char) : Bool := '0' ≤ c ∧ c ≤ '9'

/-- third loop of is_port_range with the end-of-string test after it: the `tcp` / `udp` counters let exactly these two words
    through -/
def proto : Str → Bool
  | ['t','c','p'] => true
  | ['u','d','p'] => true
  | _ => false

/-- second loop (after '-'): d = digits read so far -/
def p2 : Nat → Str → Bool
  | d, [] => d > 0
  | d, c :: r => if isDigit c then p2 (d+1) r else if c == '/' then d > 0 && proto r else false

/-- first loop: d = digits read so far -/
def p1 : Nat → Str → Bool
  | d, [] => d > 0
  | d, c :: r =>
    if isDigit c then p1 (d+1) r
    else if c == '-' then d > 0 && p2 0 r
    else if c == '/' then d > 0 && proto r
    else false

def isPortRange (s : Str) : Bool := !s.isEmpty && p1 0 s

def Digits (d : Str) : Prop := d ≠ [] ∧ ∀ c ∈ d, isDigit c = true
def Proto (p : Str) : Prop := p = [] ∨ p = "/tcp".toList ∨ p = "/udp".toList
/-- the regular expression quoted in the comment of is_port_range, anchored: ^\d+(-\d+)?(/tcp|/udp)?$ -/
def Spec (s : Str) : Prop :=
  ∃ d₁ r p, s = d₁ ++ r ++ p ∧ Digits d₁ ∧ (r = [] ∨ ∃ d₂, r = '-' :: d₂ ∧ Digits d₂) ∧ Proto p

theorem Proto_iff (p : Str) : Proto p ↔ p = [] ∨ ∃ r, p = '/' :: r ∧ proto r = true := by
  constructor
  · rintro (rfl | rfl | rfl)
    · exact .inl rfl
    · exact .inr ⟨_, rfl, rfl⟩
    · exact .inr ⟨_, rfl, rfl⟩
  · rintro (rfl | ⟨r, rfl, h⟩)
    · exact .inl rfl
    · unfold proto at h
      split at h
      · exact .inr (.inl rfl)
      · exact .inr (.inr rfl)
      · cases h

theorem slash_not_digit : isDigit '/' = false := by decide
theorem dash_not_digit : isDigit '-' = false := by decide

/-! "If" in `p2_iff` / `p1_iff`: a run of digits only counts (`p2_digits`, `p1_digits`), and on an optional protocol
    suffix (`Proto_iff`) the loop accepts iff it has counted a digit.  "Only if" reads the decomposition off the run of
    the loop. -/

theorem digits_run {f : Nat → Str → Bool} (hf : ∀ d c r, isDigit c = true → f d (c :: r) = f (d + 1) r)
    (d : Nat) (ds t : Str) (h : ∀ c ∈ ds, isDigit c = true) : f d (ds ++ t) = f (d + ds.length) t := by
  induction ds generalizing d with
  | nil => rfl
  | cons c ds ih =>
    rw [List.cons_append, hf _ _ _ (h c (by simp)), ih _ fun x hx => h x (by simp [hx]), List.length_cons,
      Nat.add_assoc, Nat.add_comm 1]

theorem p2_digits : ∀ (d : Nat) (ds t : Str), (∀ c ∈ ds, isDigit c = true) → p2 d (ds ++ t) = p2 (d + ds.length) t :=
  digits_run fun d c r h => by rw [p2, if_pos h]

theorem p2_iff (d : Nat) (s : Str) :
    p2 d s = true ↔ ∃ ds p, s = ds ++ p ∧ (∀ c ∈ ds, isDigit c = true) ∧ d + ds.length > 0 ∧ Proto p := by
  constructor
  · intro h
    induction s generalizing d with
    | nil => exact ⟨[], [], rfl, by simp, by simpa [p2] using h, .inl rfl⟩
    | cons c r ih =>
      rw [p2] at h
      split at h
      · rename_i hd
        obtain ⟨ds, p, rfl, h1, h2, h3⟩ := ih _ h
        exact ⟨c :: ds, p, rfl, by simpa [hd] using h1, by simp; omega, h3⟩
      · split at h
        · rename_i hs
          rw [beq_iff_eq] at hs; subst hs
          rw [Bool.and_eq_true, decide_eq_true_eq] at h
          exact ⟨[], '/' :: r, rfl, by simp, by simpa using h.1, (Proto_iff _).mpr (.inr ⟨r, rfl, h.2⟩)⟩
        · cases h
  · rintro ⟨ds, p, rfl, h1, h2, h3⟩
    rw [p2_digits d ds p h1]
    rcases (Proto_iff p).mp h3 with rfl | ⟨r, rfl, hr⟩
    · simpa [p2] using h2
    · simpa [p2, slash_not_digit, hr] using h2

theorem p1_digits : ∀ (d : Nat) (ds t : Str), (∀ c ∈ ds, isDigit c = true) → p1 d (ds ++ t) = p1 (d + ds.length) t :=
  digits_run fun d c r h => by rw [p1, if_pos h]

theorem p1_iff (d : Nat) (s : Str) :
    p1 d s = true ↔ ∃ ds r p, s = ds ++ r ++ p ∧ (∀ c ∈ ds, isDigit c = true) ∧ d + ds.length > 0 ∧
      (r = [] ∨ ∃ d₂, r = '-' :: d₂ ∧ Digits d₂) ∧ Proto p := by
  constructor
  · intro h
    induction s generalizing d with
    | nil => exact ⟨[], [], [], rfl, by simp, by simpa [p1] using h, .inl rfl, .inl rfl⟩
    | cons c t ih =>
      rw [p1] at h
      split at h
      · rename_i hd
        obtain ⟨ds, r, p, rfl, h1, h2, h3, h4⟩ := ih _ h
        exact ⟨c :: ds, r, p, rfl, by simpa [hd] using h1, by simp; omega, h3, h4⟩
      · split at h
        · rename_i hm
          rw [beq_iff_eq] at hm; subst hm
          rw [Bool.and_eq_true, decide_eq_true_eq, p2_iff] at h
          obtain ⟨h0, ds, p, rfl, h1, h2, h3⟩ := h
          exact ⟨[], '-' :: ds, p, rfl, by simp, by simpa using h0,
            .inr ⟨ds, rfl, by rintro rfl; simp at h2, h1⟩, h3⟩
        · split at h
          · rename_i hs
            rw [beq_iff_eq] at hs; subst hs
            rw [Bool.and_eq_true, decide_eq_true_eq] at h
            exact ⟨[], [], '/' :: t, rfl, by simp, by simpa using h.1, .inl rfl, (Proto_iff _).mpr (.inr ⟨t, rfl, h.2⟩)⟩
          · cases h
  · rintro ⟨ds, r, p, rfl, h1, h2, h3, h4⟩
    rw [List.append_assoc, p1_digits d ds _ h1]
    rcases h3 with rfl | ⟨d₂, rfl, hne, hd₂⟩
    · rcases (Proto_iff p).mp h4 with rfl | ⟨r, rfl, hr⟩
      · simpa [p1] using h2
      · simpa [p1, slash_not_digit, hr] using h2
    · simp only [List.cons_append, p1, dash_not_digit, Bool.false_eq_true, if_false, beq_self_eq_true, if_true,
        Bool.and_eq_true, decide_eq_true_eq]
      exact ⟨h2, (p2_iff 0 _).mpr ⟨d₂, p, rfl, hd₂, by rw [Nat.zero_add]; exact List.length_pos_iff.mpr hne, h4⟩⟩

end Port
