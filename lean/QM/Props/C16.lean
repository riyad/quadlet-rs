import QM.ConvAccept
import QM.Conform
/-! # C16 — undocumented keys are rejected, documented keys are accepted

`Cv.from*` are the executable models of the seven converters (tied to convert.rs by the `convert`
correspondence); their key tables are the `SUPPORTED_*_KEYS` extracted from constants.rs on every run and
shown equal (as sets) to the frozen documented tables by `Conform.supported_*`.  Matching is exact
(`List.contains` on the key text), so case changes and one-character edits are covered by the same theorems. -/
namespace Cv
open MM

/-- the first undocumented key (file order) of the unit's own section fails the conversion and is the key named -/
theorem C16_image_rejects (E path u k) (h : firstUnknown (entriesOf u (s "Image")) supportedImage = some k) :
    fromImage E path u = .error (.unknownKey k) := by
  unfold fromImage; exact rejects_own h
theorem C16_volume_rejects (E path u k) (h : firstUnknown (entriesOf u (s "Volume")) supportedVolume = some k) :
    fromVolume E path u = .error (.unknownKey k) := by
  unfold fromVolume; exact rejects_own h
theorem C16_network_rejects (E path u k) (h : firstUnknown (entriesOf u (s "Network")) supportedNetwork = some k) :
    fromNetwork E path u = .error (.unknownKey k) := by
  unfold fromNetwork; exact rejects_own h
theorem C16_pod_rejects (E path u cs k) (h : firstUnknown (entriesOf u (s "Pod")) supportedPod = some k) :
    fromPod E path u cs = .error (.unknownKey k) := by
  unfold fromPod; exact rejects_own h
theorem C16_kube_rejects (E path u k) (h : firstUnknown (entriesOf u (s "Kube")) supportedKube = some k) :
    fromKube E path u = .error (.unknownKey k) := by
  unfold fromKube; exact rejects_own h
/-- .build: the lookup of the unit itself in the name table and the missing-ImageTag check precede the key check; `hi`, `hr`: the
    unit passes them -/
theorem C16_build_rejects (E path u k) (i : Info) (hi : E.info (fileName path) = some i) (hr : i.resourceName.isEmpty = false)
    (h : firstUnknown (entriesOf u (s "Build")) supportedBuild = some k) :
    fromBuild E path u = .error (.unknownKey k) := by
  unfold fromBuild
  rw [hi]
  exact (if_neg (by simp [hr])).trans (rejects_own h)
/-- .container (inside the modelled CSV subset of Mount=; the name table always holds the unit itself) -/
theorem C16_container_rejects (E path u k) (i : Info) (hi : E.info (fileName path) = some i)
    (hm : (lookupAllArgs u (s "Container") (s "Mount")).any (fun m => (findMountType m).isNone) = false)
    (h : firstUnknown (entriesOf u (s "Container")) supportedContainer = some k) :
    fromContainer E path u = some (.error (.unknownKey k)) := by
  unfold fromContainer
  refine (if_neg (by simp [hm])).trans (congrArg some ?_)
  rw [hi]
  exact rejects_own h

/-- … and likewise an undocumented key of [Quadlet], when the unit's own section is clean -/
theorem C16_image_rejects_quadlet (E path u k) (h0 : firstUnknown (entriesOf u (s "Image")) supportedImage = none)
    (h : firstUnknown (entriesOf u (s "Quadlet")) supportedQuadlet = some k) :
    fromImage E path u = .error (.unknownKey k) := by
  unfold fromImage; exact rejects_quadlet h0 h
theorem C16_volume_rejects_quadlet (E path u k) (h0 : firstUnknown (entriesOf u (s "Volume")) supportedVolume = none)
    (h : firstUnknown (entriesOf u (s "Quadlet")) supportedQuadlet = some k) :
    fromVolume E path u = .error (.unknownKey k) := by
  unfold fromVolume; exact rejects_quadlet h0 h
theorem C16_network_rejects_quadlet (E path u k) (h0 : firstUnknown (entriesOf u (s "Network")) supportedNetwork = none)
    (h : firstUnknown (entriesOf u (s "Quadlet")) supportedQuadlet = some k) :
    fromNetwork E path u = .error (.unknownKey k) := by
  unfold fromNetwork; exact rejects_quadlet h0 h
theorem C16_pod_rejects_quadlet (E path u cs k) (h0 : firstUnknown (entriesOf u (s "Pod")) supportedPod = none)
    (h : firstUnknown (entriesOf u (s "Quadlet")) supportedQuadlet = some k) :
    fromPod E path u cs = .error (.unknownKey k) := by
  unfold fromPod; exact rejects_quadlet h0 h
theorem C16_kube_rejects_quadlet (E path u k) (h0 : firstUnknown (entriesOf u (s "Kube")) supportedKube = none)
    (h : firstUnknown (entriesOf u (s "Quadlet")) supportedQuadlet = some k) :
    fromKube E path u = .error (.unknownKey k) := by
  unfold fromKube; exact rejects_quadlet h0 h
theorem C16_build_rejects_quadlet (E path u k) (i : Info) (hi : E.info (fileName path) = some i) (hr : i.resourceName.isEmpty = false)
    (h0 : firstUnknown (entriesOf u (s "Build")) supportedBuild = none)
    (h : firstUnknown (entriesOf u (s "Quadlet")) supportedQuadlet = some k) :
    fromBuild E path u = .error (.unknownKey k) := by
  unfold fromBuild
  rw [hi]
  exact (if_neg (by simp [hr])).trans (rejects_quadlet h0 h)
theorem C16_container_rejects_quadlet (E path u k) (i : Info) (hi : E.info (fileName path) = some i)
    (hm : (lookupAllArgs u (s "Container") (s "Mount")).any (fun m => (findMountType m).isNone) = false)
    (h0 : firstUnknown (entriesOf u (s "Container")) supportedContainer = none)
    (h : firstUnknown (entriesOf u (s "Quadlet")) supportedQuadlet = some k) :
    fromContainer E path u = some (.error (.unknownKey k)) := by
  unfold fromContainer
  refine (if_neg (by simp [hm])).trans (congrArg some ?_)
  rw [hi]
  exact rejects_quadlet h0 h

/-- which key is named: the first entry in file order whose key is not in the table -/
theorem C16_names_first (es : Entries) (sup : List Str) (k : Str) :
    firstUnknown es sup = some k ↔
      ∃ pre v post, es = pre ++ (k, v) :: post ∧ (∀ kv ∈ pre, kv.1 ∈ sup) ∧ k ∉ sup := by
  unfold firstUnknown
  simp only [Option.map_eq_some_iff, List.find?_eq_some_iff_append]
  constructor
  · rintro ⟨⟨k, v⟩, ⟨hk, pre, post, rfl, hpre⟩, rfl⟩
    exact ⟨pre, v, post, rfl, fun kv h => by simpa using hpre kv h, by simpa using hk⟩
  · rintro ⟨pre, v, post, rfl, hpre, hk⟩
    exact ⟨(k, v), ⟨by simpa using hk, pre, post, rfl, fun kv h => by simpa using hpre kv h⟩, rfl⟩

theorem C16_clean_passes (u : SUnit) (sec : Str) (sup : List Str) (h : ∀ kv ∈ entriesOf u sec, kv.1 ∈ sup) :
    checkUnknown u sec sup = .ok () :=
  checkUnknown_ok u sec sup ((firstUnknown_none_iff _ _).mpr h)


/-! ### acceptance: documented keys are never rejected as unknown

`NoUK r` (QM/ConvNoUK.lean): the computation `r` cannot end in an `unknownKey` error.  When the unit's own section and
[Quadlet] hold documented keys only, no step of any converter model raises one — the key check is the only source of
that error (every handler, including the monadic folds over Volume=, Network=, Mount= and ExposeHostPort=, is shown to
raise other errors only). Other errors (a missing image, a bad port …) remain possible and are not this property. -/

theorem C16_image_accepts (E : Env) (path : Str) (u : SUnit)
    (h0 : firstUnknown (entriesOf u (s "Image")) supportedImage = none)
    (h1 : firstUnknown (entriesOf u (s "Quadlet")) supportedQuadlet = none) :
    ∀ k, fromImage E path u ≠ .error (.unknownKey k) :=
  (fromImage_noUK E path u h0 h1).ne
theorem C16_volume_accepts (E : Env) (path : Str) (u : SUnit)
    (h0 : firstUnknown (entriesOf u (s "Volume")) supportedVolume = none)
    (h1 : firstUnknown (entriesOf u (s "Quadlet")) supportedQuadlet = none) :
    ∀ k, fromVolume E path u ≠ .error (.unknownKey k) :=
  (fromVolume_noUK E path u h0 h1).ne
theorem C16_network_accepts (E : Env) (path : Str) (u : SUnit)
    (h0 : firstUnknown (entriesOf u (s "Network")) supportedNetwork = none)
    (h1 : firstUnknown (entriesOf u (s "Quadlet")) supportedQuadlet = none) :
    ∀ k, fromNetwork E path u ≠ .error (.unknownKey k) :=
  (fromNetwork_noUK E path u h0 h1).ne
theorem C16_pod_accepts (E : Env) (path : Str) (u : SUnit) (cts : List Str)
    (h0 : firstUnknown (entriesOf u (s "Pod")) supportedPod = none)
    (h1 : firstUnknown (entriesOf u (s "Quadlet")) supportedQuadlet = none) :
    ∀ k, fromPod E path u cts ≠ .error (.unknownKey k) :=
  (fromPod_noUK E path u cts h0 h1).ne
theorem C16_kube_accepts (E : Env) (path : Str) (u : SUnit)
    (h0 : firstUnknown (entriesOf u (s "Kube")) supportedKube = none)
    (h1 : firstUnknown (entriesOf u (s "Quadlet")) supportedQuadlet = none) :
    ∀ k, fromKube E path u ≠ .error (.unknownKey k) :=
  (fromKube_noUK E path u h0 h1).ne
theorem C16_build_accepts (E : Env) (path : Str) (u : SUnit)
    (h0 : firstUnknown (entriesOf u (s "Build")) supportedBuild = none)
    (h1 : firstUnknown (entriesOf u (s "Quadlet")) supportedQuadlet = none) :
    ∀ k, fromBuild E path u ≠ .error (.unknownKey k) :=
  (fromBuild_noUK E path u h0 h1).ne
theorem C16_container_accepts (E : Env) (path : Str) (u : SUnit)
    (h0 : firstUnknown (entriesOf u (s "Container")) supportedContainer = none)
    (h1 : firstUnknown (entriesOf u (s "Quadlet")) supportedQuadlet = none) :
    ∀ k, fromContainer E path u ≠ some (.error (.unknownKey k)) :=
  fun k h => (fromContainer_noUK E path u _ h0 h1 h).ne k rfl

end Cv
