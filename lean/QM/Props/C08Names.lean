import QM.Props.C08
/-! # C08 — the names in the final name table, by unit type

`C08_process_concrete` says every unit is converted against `Refine.fin (sys b) units`, the *final* name table.  These theorems
say what that table holds for a unit of the run, in terms of the unit's own (merged) keys — the "podman object name the referenced
unit actually creates" and "the referenced unit's actual service" of the statement. -/
namespace Cv
open MM

theorem fin_of_mem (b : Bool) (units : List QUnit) (hd : (units.map QUnit.name).Nodup) (q : QUnit) (hq : q ∈ units) :
    Refine.fin (sys b) units q.name = some ((publishOf b q).getD (prefill q)) := by
  rw [← sys_name b, Refine.fin_of_mem (sys b) units (by rwa [sys_name]) q hq, sys_publish, sys_prefill]

/-- the service every referrer depends on: the unit's `ServiceName=`, else stem + the suffix of its type -/
theorem C08_table_service (b : Bool) (units : List QUnit) (hd : (units.map QUnit.name).Nodup) (q : QUnit) (hq : q ∈ units) :
    ∃ i, Refine.fin (sys b) units q.name = some i ∧ i.serviceName = serviceNameOf q.path q.unit := by
  refine ⟨_, fin_of_mem b units hd q hq, ?_⟩
  cases hp : publishOf b q with
  | none => rfl
  | some i => exact publishOf_serviceName b q i hp

/-- a name that no unit of the run has: no entry (the reference handlers then fail the referring unit with the missing file's name,
    `C08_*_reference_missing` in Props/C08.lean) -/
theorem C08_table_missing (b : Bool) (units : List QUnit) (n : Str) (h : ∀ q ∈ units, q.name ≠ n) :
    Refine.fin (sys b) units n = none :=
  Refine.fin_eq_none (sys b) units n fun q hq => by rw [sys_name]; exact h q hq

/-- .volume: the object is `VolumeName=` or `systemd-<stem>`, published as soon as the unit's keys are documented ones -/
theorem C08_table_volume (b : Bool) (units : List QUnit) (hd : (units.map QUnit.name).Nodup) (q : QUnit) (hq : q ∈ units)
    (hty : q.ty = s "volume") (n : Str) (hp : volumePublished q = some n) :
    Refine.fin (sys b) units q.name = some { serviceName := serviceNameOf q.path q.unit, resourceName := n } := by
  rw [fin_of_mem b units hd q hq, publishOf_volume b q hty, hp]; rfl

theorem C08_volume_published_name (q : QUnit) (n : Str) (hp : volumePublished q = some n) :
    n = (if ((lookup q.unit (s "Volume") (s "VolumeName")).getD []).isEmpty then s "systemd-" ++ fileStem q.name
         else (lookup q.unit (s "Volume") (s "VolumeName")).getD []) := by
  unfold volumePublished at hp
  split at hp
  · simp at hp
  · simp only [Option.some.injEq] at hp; exact hp.symm

/-- .network: the name the converter hands to `podman network create` -/
theorem C08_table_network (b : Bool) (units : List QUnit) (hd : (units.map QUnit.name).Nodup) (q : QUnit) (hq : q ∈ units)
    (hty : q.ty = s "network") (svc : SUnit) (r : Str) (hc : fromNetwork (envOf b (fun _ => none)) q.path q.unit = .ok (svc, r)) :
    Refine.fin (sys b) units q.name = some { serviceName := serviceNameOf q.path q.unit, resourceName := r }
      ∧ r = networkNameOf q.path q.unit := by
  refine ⟨?_, (fromNetwork_segs _ _ _ _ _ hc).2⟩
  rw [fin_of_mem b units hd q hq, publishOf_network b q hty, hc]; rfl

/-- .image: the name the unit's own conversion returns (`fromImage`: `ImageTag=` if non-empty, else the value of `Image=` — read off
    the model, not part of the statement) -/
theorem C08_table_image (b : Bool) (units : List QUnit) (hd : (units.map QUnit.name).Nodup) (q : QUnit) (hq : q ∈ units)
    (hty : q.ty = s "image") (svc : SUnit) (r : Str) (hc : fromImage (envOf b (fun _ => none)) q.path q.unit = .ok (svc, r)) :
    Refine.fin (sys b) units q.name = some { serviceName := serviceNameOf q.path q.unit, resourceName := r } := by
  rw [fin_of_mem b units hd q hq, publishOf_image b q hty, hc]; rfl

/-- .build: the first non-empty `ImageTag=`; .container: `ContainerName=` (default `systemd-%N`; for a template `systemd-%p_%i`) with `%N` resolved to the
    service name (no name when another specifier remains, so none for a template by default) — both known before any unit is converted -/
theorem C08_table_build (b : Bool) (units : List QUnit) (hd : (units.map QUnit.name).Nodup) (q : QUnit) (hq : q ∈ units)
    (hty : q.ty = s "build") :
    Refine.fin (sys b) units q.name = some { serviceName := serviceNameOf q.path q.unit, resourceName := (builtImageName q.unit).getD [] } := by
  rw [fin_of_mem b units hd q hq, publishOf_none b q (by simp [isPublisher, hty, s_inj]), prefill_build q hty]; rfl

theorem C08_table_container (b : Bool) (units : List QUnit) (hd : (units.map QUnit.name).Nodup) (q : QUnit) (hq : q ∈ units)
    (hty : q.ty = s "container") :
    Refine.fin (sys b) units q.name
      = some (Info.mk (serviceNameOf q.path q.unit) (containerResourceName q.name q.unit (serviceNameOf q.path q.unit))) := by
  rw [fin_of_mem b units hd q hq, publishOf_none b q (by simp [isPublisher, hty, s_inj]), prefill_container q hty]; rfl

/-! ### the formulas behind the names (so that the statements above do not rest on what a model function happens to compute) -/

/-- the service suffix of every unit type, as the statement lists them (the table is extracted from the source, T1) -/
theorem C08_suffixes :
    suffixOf (s "container") = [] ∧ suffixOf (s "kube") = [] ∧ suffixOf (s "volume") = s "-volume" ∧ suffixOf (s "network") = s "-network"
    ∧ suffixOf (s "image") = s "-image" ∧ suffixOf (s "build") = s "-build" ∧ suffixOf (s "pod") = s "-pod" := C08_service_suffixes

/-- `ServiceName=` of the unit's own section if it is assigned, else file stem + suffix of the type -/
theorem C08_service_name_formula (path : Str) (u : SUnit) :
    serviceNameOf path u = match lookup u (sectionOf (extension (fileName path))) (s "ServiceName") with
      | some n => n
      | none => fileStem (fileName path) ++ suffixOf (extension (fileName path)) := rfl

/-- `NetworkName=` if it is not empty, else `systemd-<file stem>` -/
theorem C08_network_name_formula (path : Str) (u : SUnit) :
    networkNameOf path u = (if ((lookup u (s "Network") (s "NetworkName")).getD []).isEmpty then s "systemd-" ++ fileStem (fileName path)
                            else (lookup u (s "Network") (s "NetworkName")).getD []) := rfl

/-- an `ImageTag=` value that is not empty (`builtImageName` takes the first such; that it is the first is not stated) -/
theorem C08_build_name_formula (u : SUnit) (t : Str) (h : builtImageName u = some t) :
    t ∈ lookupAll u (s "Build") (s "ImageTag") ∧ t ≠ [] := by
  unfold builtImageName at h
  refine ⟨List.mem_of_find?_eq_some h, ?_⟩
  have := List.find?_some h
  intro e; subst e; simp at this

example : serviceNameOf (s "/q/data.volume") [] = s "data-volume" ∧ serviceNameOf (s "/q/web.container") [] = s "web"
    ∧ networkNameOf (s "/q/front.network") [] = s "systemd-front" := by decide +kernel

end Cv
