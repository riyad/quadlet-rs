import QM.ParseNL
import QM.SpellLemmas
import QM.Fs
/-! # C11 — the generator never panics, aborts or hangs, whatever the input files contain

A theorem cannot observe a Rust panic.  What is proved here: (i) the conditions under which the `expect`/`unwrap`
sites on the user-reachable paths *would* fire are impossible in the model — every raw value of a loaded unit passed
the validation of `add_raw`, every string the generator stores with `add`/`set`/`prepend` is accepted by the unquoter, every
rendered command line is accepted when it is stored; (ii) every model function is total: Lean accepted the
definitions of the parser, unquoter, splitters, path cleaner, port recogniser, converters, discovery fold and
conversion loop by structural recursion, by well-founded recursion on the remaining input
(`decode_length`), or with fuel bounded by the input length — that acceptance is the proof that the modelled loops
terminate.  The tie to the code's actual panic sites is the inventory of `unwrap/expect/panic!/assert!/index`
expressions extracted from the source on every run (tools/panic_inventory.py) and compared with the committed
classification (spec/panic_sites.json), plus `catch_unwind`/exit-status observation on generated and mutated inputs.
Allocation failure, stack exhaustion, and the `expect`s on writes to stdout/stderr are not modelled. -/
namespace Cv

/-- `EntryValue::unquote().expect(..)` on a value read from a unit file cannot fire: a file only loads when every
    raw value is accepted by the unquoter (`add_raw` validation in the parser) -/
theorem C11_loaded_values_unquotable (text : Str) (u : Parse.Unit) (h : Parse.parse parseEnv text = .ok u) :
    ∀ p ∈ u, ∀ kv ∈ p.2, ∃ r, P.unquoteValue true kv.2 = some r :=
  fun p hp kv hkv => Option.isSome_iff_exists.mp (Parse.parse_valid parseEnv text u h p hp kv hkv)

/-- … nor on a value the generator stored itself with `add`/`set`/`prepend` (NUL cannot occur: the D12d repair
    rejects it at load, file names cannot contain it) -/
theorem C11_added_values_readable (v : Str) (hv : ∀ c ∈ v, c ≠ '\x00') :
    ∃ r, P.unquoteValue true (P.quoteValue v) = some r :=
  P.unquote_quoteValue v hv none []

/-- … and storing a rendered command line (`add_raw` of `to_escaped_string`) cannot be rejected -/
theorem C11_exec_lines_storable (args : List Str) (h : ∀ w ∈ args, ∀ c ∈ w, c ≠ '\x00') (svc : MM.SUnit) (key : String) :
    ∃ svc', addRawExec svc key args = .ok svc' := by
  obtain ⟨r, hr⟩ := P.unquote_quoteWords args h
  exact ⟨MM.addEntry svc (s "Service") (s key) (P.quoteWords args), by simp [addRawExec, hr]⟩

/-- a file that cannot be loaded is an error for that file only; stated for one `loadStep` of the discovery fold: the error is
    recorded, and the names seen and the units loaded so far are handed on unchanged to the remaining candidates -/
theorem C11_load_error_is_per_file (acc : List Str × List Loaded) (pc : Str × Str)
    (hfail : ∀ u, Parse.parse parseEnv pc.2 ≠ .ok u) (hnew : acc.1.contains (fileName pc.1) = false) :
    loadStep acc pc = (acc.1, acc.2 ++ [Loaded.loadErr pc.1]) := by
  unfold loadStep
  simp only [hnew, Bool.false_eq_true, if_false]
  split
  · rename_i u hp; exact absurd hp (hfail u)
  · rfl

end Cv
