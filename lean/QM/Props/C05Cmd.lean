import QM.Props.C05
import QM.Props.C02
/-! # C05 at the command level — "Exec / PodmanArgs words in the generated ExecStart"

For every converter model (for `.image` stated of `imageCmd`, the command that `imageSvc` renders, not of the service's Exec line): the
words systemd's splitter (UNQUOTE|CUNESCAPE|RELAX) finds in the effective `PodmanArgs=` assignments
are, all of them and in order — explicitly quoted empty words included —, consecutive arguments of the generated command, after every
key-derived option and directly before the positional arguments (for a network, its name; for `.build` the statement leaves open
what follows); for a container so are the words of `Exec=`, which end the command. -/
namespace Cv
open MM

/-- systemd splits every one of the raw values: `wss` are the word lists, in the same order -/
inductive AllSplit : List Str → List (List Str) → Prop
  | nil : AllSplit [] []
  | cons {raw : Str} {ws : List Str} {raws : List Str} {wss : List (List Str)} :
      P.splitAll P.argFlags raw = some ws → AllSplit raws wss → AllSplit (raw :: raws) (ws :: wss)

/-- any argument-style key (`PodmanArgs`, `Exec`, `GlobalArgs`, `Mask`, `Secret`, …): `lookup_all_args` = systemd's words of the effective
    assignments, in assignment order -/
theorem args_words (u : SUnit) (sec key : Str) (raws : List Str) (wss : List (List Str))
    (hv : lookupAllValues u sec key = raws) (hs : AllSplit raws wss) : lookupAllArgs u sec key = wss.flatten := by
  unfold lookupAllArgs
  rw [hv]
  clear hv
  induction hs with
  | nil => rfl
  | cons hd _ ih => rw [List.flatMap_cons, List.flatten_cons, ih, splitArgs, P.C05_args_eq_systemd _ _ hd]

theorem podman_args_words (u : SUnit) (sec : Str) (raws : List Str) (wss : List (List Str))
    (hv : lookupAllValues u sec (s "PodmanArgs") = raws) (hs : AllSplit raws wss) : podmanArgs u sec = wss.flatten :=
  args_words u sec _ raws wss hv hs

theorem podman_args_suffix {u : SUnit} {sec : Str} {raws : List Str} {wss : List (List Str)}
    (hv : lookupAllValues u sec (s "PodmanArgs") = raws) (hs : AllSplit raws wss) (pre tail : List Str) :
    (wss.flatten ++ tail) <:+ pre ++ podmanArgs u sec ++ tail := by
  rw [podman_args_words u sec raws wss hv hs, List.append_assoc]
  exact List.suffix_append _ _

/-- several effective assignments (after the resets of C15): the words of each, in assignment order -/
theorem C05_network_podman_args_all (E : Env) (path : Str) (u svc : SUnit) (n : Str) (raws : List Str) (wss : List (List Str))
    (h : fromNetwork E path u = .ok (svc, n))
    (hv : lookupAllValues u (s "Network") (s "PodmanArgs") = raws)
    (hs : AllSplit raws wss) :
    ∃ cmd, HasExec svc "ExecStart" cmd ∧ (wss.flatten ++ [n]) <:+ cmd := by
  obtain ⟨sub, hx⟩ := C02_network_shape E path u svc n h
  exact ⟨_, hx, podman_args_suffix hv hs _ _⟩

/-- a single effective `PodmanArgs=` assignment: exactly systemd's words, as one block of arguments, right before the positional name -/
theorem C05_network_podman_args_reach_command (E : Env) (path : Str) (u svc : SUnit) (n raw : Str) (ws : List Str)
    (h : fromNetwork E path u = .ok (svc, n))
    (hv : lookupAllValues u (s "Network") (s "PodmanArgs") = [raw])
    (hs : P.splitAll P.argFlags raw = some ws) :
    ∃ cmd, HasExec svc "ExecStart" cmd ∧ (ws ++ [n]) <:+ cmd := by
  simpa using C05_network_podman_args_all E path u svc n [raw] [ws] h hv (.cons hs .nil)

theorem C05_image_podman_args (E : Env) (path : Str) (u svc : SUnit) (r : Str) (raws : List Str) (wss : List (List Str))
    (h : fromImage E path u = .ok (svc, r))
    (hv : lookupAllValues u (s "Image") (s "PodmanArgs") = raws) (hs : AllSplit raws wss) :
    (wss.flatten ++ [(lookup u (s "Image") (s "Image")).getD []]) <:+ imageCmd E u :=
  podman_args_suffix hv hs _ _

theorem C05_volume_podman_args (E : Env) (path : Str) (u svc : SUnit) (n : Str) (raws : List Str) (wss : List (List Str))
    (h : fromVolume E path u = .ok (svc, n))
    (hv : lookupAllValues u (s "Volume") (s "PodmanArgs") = raws) (hs : AllSplit raws wss) :
    ∃ cmd, HasExec svc "ExecStart" cmd ∧ (wss.flatten ++ [n]) <:+ cmd := by
  obtain ⟨c2, hx⟩ := C02_volume_shape E path u svc n h
  exact ⟨_, hx, podman_args_suffix hv hs _ _⟩

theorem C05_pod_podman_args (E : Env) (path : Str) (u svc : SUnit) (cts : List Str) (raws : List Str) (wss : List (List Str))
    (h : fromPod E path u cts = .ok svc)
    (hv : lookupAllValues u (s "Pod") (s "PodmanArgs") = raws) (hs : AllSplit raws wss) :
    ∃ cmd, HasExec svc "ExecStartPre" cmd ∧ wss.flatten <:+ cmd := by
  obtain ⟨maps, nets, vols, hx⟩ := C02_pod_shape E path u svc cts h
  exact ⟨_, hx, podman_args_words u _ raws wss hv hs ▸ List.suffix_append _ _⟩

theorem C05_kube_podman_args (E : Env) (path : Str) (u svc : SUnit) (raws : List Str) (wss : List (List Str))
    (h : fromKube E path u = .ok svc)
    (hv : lookupAllValues u (s "Kube") (s "PodmanArgs") = raws) (hs : AllSplit raws wss) :
    ∃ cmd, HasExec svc "ExecStart" cmd ∧ (wss.flatten ++ [absFromUnit path ((lookup u (s "Kube") (s "Yaml")).getD [])]) <:+ cmd := by
  obtain ⟨maps, nets, hx⟩ := C02_kube_shape E path u svc h
  exact ⟨_, hx, podman_args_suffix hv hs _ _⟩

/-- `tail`: in `fromBuild` the build context (or the working directory standing in for it), or nothing; the statement leaves it open -/
theorem C05_build_podman_args (E : Env) (path : Str) (u svc : SUnit) (raws : List Str) (wss : List (List Str))
    (h : fromBuild E path u = .ok svc)
    (hv : lookupAllValues u (s "Build") (s "PodmanArgs") = raws) (hs : AllSplit raws wss) :
    ∃ cmd tail, HasExec svc "ExecStart" cmd ∧ (wss.flatten ++ tail) <:+ cmd := by
  obtain ⟨nets, vols, fa, tail, hx⟩ := C02_build_shape E path u svc h
  exact ⟨_, tail, hx, podman_args_suffix hv hs _ _⟩

/-- .container: the words of `PodmanArgs=`, then the image (or `--rootfs <path>`), then the words of the effective `Exec=` —
    systemd's words in both cases — close the command -/
theorem C05_container_podman_args_and_exec (E : Env) (path : Str) (u svc : SUnit) (link : Option (Str × Str))
    (raws : List Str) (wss : List (List Str))
    (h : fromContainer E path u = some (.ok (svc, link)))
    (hv : lookupAllValues u (s "Container") (s "PodmanArgs") = raws) (hs : AllSplit raws wss) :
    ∃ cmd image, HasExec svc "ExecStart" cmd ∧ (wss.flatten ++ containerTail u (s "Container") image) <:+ cmd := by
  obtain ⟨m1, mounts, podArgs, image, hx⟩ := C02_container_shape E path u svc link h
  exact ⟨_, image, hx, podman_args_suffix hv hs _ _⟩

/-- the words of `Exec=` (last assignment, C15) are systemd's words and they are the last arguments of the command -/
theorem C05_container_exec_words (u : SUnit) (image raw : Str) (ws : List Str)
    (hv : lookupLastValue u (s "Container") (s "Exec") = some raw) (hs : P.splitAll P.argFlags raw = some ws) :
    ws <:+ containerTail u (s "Container") image := by
  simp only [containerTail, hv, splitArgs, P.C05_args_eq_systemd raw ws hs]
  exact List.suffix_append _ _

end Cv
