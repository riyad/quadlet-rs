import QM.Search
/-! # C14 — root never reads per-user directories; a user reads only its own and shared ones

Directories are lists of path components; `Srch.users` is /etc/containers/systemd/users.  `Srch.rootAdminDirs tree`
and `Srch.rootlessAdminDirs true tree uid` model what `UnitSearchDirs` (iterators.rs, after the D10 repair) collects
below the administrator's tree for the system generator and for a user generator, over an abstract list of the
tree's directories (walkdir is third-party; no symlinks below the admin directory).  `Srch.userMayRead uid d` is
the specification.  The real directory walk with the real filters is compared with the model on staged trees, and
the whole binary is run in a private mount namespace as uid 0 and as other uids. -/
namespace Srch

/-- C14, root: nothing at or below users/ -/
theorem C14_root (tree : List Dir) : ∀ d ∈ rootAdminDirs tree, users.isPrefixOf d = false := by
  intro d hd
  simp only [rootAdminDirs, List.mem_filter, userLevelFilter] at hd
  exact Bool.eq_false_iff.mpr fun h => by simp [h] at hd

/-- D10 as a theorem about the model of the pinned code: uid 1001 is served users/2002/sub -/
theorem C14_pinned_counterexample :
    (users ++ ["2002".toList, "sub".toList]) ∈
      rootlessAdminDirs false [users, users ++ ["2002".toList], users ++ ["2002".toList, "sub".toList]] "1001".toList := by
  decide +kernel

theorem getElem_of_prefix (p d : Dir) (x : Name) (h : (p ++ [x]).isPrefixOf d = true) : d[p.length]? = some x := by
  obtain ⟨t, rfl⟩ := List.isPrefixOf_iff_prefix.mp h
  simp

/-- the repaired filter below users/: the component directly below it is not a UID -/
theorem nonNumericFilter_fixed (d : Dir) (hp : users.isPrefixOf d = true) :
    nonNumericFilter true d = true ↔ ∃ n, d[users.length]? = some n ∧ isNumeric n = false := by
  simp only [nonNumericFilter, hp, if_true]
  cases hn : d[users.length]? with
  | none => simp
  | some n => simp [(List.getElem?_eq_some_iff.mp hn).1]

theorem mem_rootlessAdminDirs (tree : List Dir) (uid : Name) (d : Dir) :
    d ∈ rootlessAdminDirs true tree uid ↔ d = users ∨ d ∈ tree ∧ userMayRead uid d := by
  simp only [rootlessAdminDirs, List.mem_append, List.mem_filter, walk, List.mem_singleton, userMayRead]
  constructor
  · rintro ((⟨⟨ht, hp⟩, hf⟩ | ⟨⟨ht, hp⟩, _⟩) | rfl)
    · exact .inr ⟨ht, .inr (.inl ⟨hp, (nonNumericFilter_fixed d hp).mp hf⟩)⟩
    · exact .inr ⟨ht, .inr (.inr hp)⟩
    · exact .inl rfl
  · rintro (rfl | ⟨ht, rfl | ⟨hp, hn⟩ | hp⟩)
    · exact .inr rfl
    · exact .inr rfl
    · exact .inl (.inl ⟨⟨ht, hp⟩, (nonNumericFilter_fixed d hp).mpr hn⟩)
    · exact .inl (.inr ⟨⟨ht, hp⟩, by simp [userLevelFilter]⟩)

/-- C14, user, soundness (repaired filter): everything read below the admin tree is permitted -/
theorem C14_user_sound (tree : List Dir) (uid : Name) (huid : isNumeric uid = true) :
    ∀ d ∈ rootlessAdminDirs true tree uid, userMayRead uid d :=
  fun d hd => ((mem_rootlessAdminDirs tree uid d).mp hd).elim .inl And.right

/-- C14, user, completeness (repaired filter): every permitted directory of the tree is read -/
theorem C14_user_complete (tree : List Dir) (uid : Name) (d : Dir) (hd : d ∈ tree) (h : userMayRead uid d) :
    d ∈ rootlessAdminDirs true tree uid :=
  (mem_rootlessAdminDirs tree uid d).mpr (.inr ⟨hd, h⟩)


/-- a user never reads anything at or below a directory named after another UID -/
theorem C14_user_not_other_uid (tree : List Dir) (uid other : Name) (huid : isNumeric uid = true)
    (hother : isNumeric other = true) (hne : other ≠ uid) (d : Dir) (hd : d ∈ rootlessAdminDirs true tree uid) :
    (users ++ [other]).isPrefixOf d = false := by
  refine Bool.eq_false_iff.mpr fun hp => ?_
  have hget := getElem_of_prefix users d other hp
  rcases C14_user_sound tree uid huid d hd with rfl | ⟨_, n, hn, hnum⟩ | hown
  · simp at hget
  · rw [hget] at hn; cases hn; rw [hother] at hnum; cases hnum
  · have := getElem_of_prefix users d uid hown
    rw [hget] at this; cases this; exact hne rfl

end Srch
