import QM.Props.C02
import QM.Props.C15
/-! # C15 at the command level — "the generated command reflects exactly that effective value"

For a single-valued table key the effective value is the last assignment (`C15_last`), wherever it was made — in the main file, a
repeated section, or a drop-in merged after it (`C15_history`) — and the key's row is one of the segments of the converter's command
(`segString_infix`; `.build`, whose command is not written as a segment list, finds the block in `C02_build_shape`). -/
namespace Cv
open MM

theorem lookup_of_last {u : SUnit} {sec k : Str} {earlier : List Str} {raw : Str} (hh : assignments u sec k = earlier ++ [raw]) :
    lookup u sec k = some (unq raw) := by
  rw [(C15_last u sec k).2, hh]; simp

theorem segString_last_infix {segs : List Seg} {sec k f : Str} (hg : segString sec (k, f) ∈ segs) {u : SUnit} {earlier : List Str}
    {raw : Str} (hh : assignments u sec k = earlier ++ [raw]) (hne : (unq raw).isEmpty = false) : [f, unq raw] <:+: cmdOf segs u :=
  segString_infix hg (lookup_of_last hh) hne

theorem string_key_last_in_block (u : SUnit) (sec : Str) (rows : List (Str × Str)) (k f : Str) (earlier : List Str) (raw : Str)
    (hr : (k, f) ∈ rows) (hh : assignments u sec k = earlier ++ [raw]) (hne : (unq raw).isEmpty = false) :
    [f, unq raw] <:+: addString u sec rows :=
  rowString_infix u sec rows k f (unq raw) hr (lookup_of_last hh) hne

/-- the last assignment of a single-valued table key is the option's value on the command line -/
theorem C15_network_command_last (E : Env) (path : Str) (u svc : SUnit) (n k f : Str) (earlier : List Str) (raw : Str)
    (h : fromNetwork E path u = .ok (svc, n))
    (hr : (k, f) ∈ Gen.tbl_from_network_unit_string_keys)
    (hh : assignments u (s "Network") k = earlier ++ [raw]) (hne : (unq raw).isEmpty = false) :
    ∃ cmd, HasExec svc "ExecStart" cmd ∧ [f, unq raw] <:+: cmd :=
  (C02_string_option_reaches_podman E path u svc n k f (unq raw) h hr (lookup_of_last hh) hne).imp fun _ hc => ⟨hc.1, hc.2.1⟩

/-- … also when it is made in a drop-in: of all assignments in the main file and the drop-ins, in merge order, the last one counts -/
theorem C15_network_command_last_dropins (E : Env) (path : Str) (main : SUnit) (dropins : List SUnit) (svc : SUnit) (n k f : Str)
    (hnd : ∀ d ∈ dropins, (d.map Prod.fst).Nodup)
    (h : fromNetwork E path (dropins.foldl mergeFrom main) = .ok (svc, n))
    (hr : (k, f) ∈ Gen.tbl_from_network_unit_string_keys) (earlier : List Str) (raw : Str)
    (hh : assignments main (s "Network") k ++ dropins.flatMap (assignments · (s "Network") k) = earlier ++ [raw])
    (hne : (unq raw).isEmpty = false) :
    ∃ cmd, HasExec svc "ExecStart" cmd ∧ [f, unq raw] <:+: cmd :=
  C15_network_command_last E path _ svc n k f earlier raw h hr (by rw [C15_history main dropins hnd]; exact hh) hne

theorem C15_image_command_last (E : Env) (path : Str) (u svc : SUnit) (r k f : Str) (earlier : List Str) (raw : Str)
    (h : fromImage E path u = .ok (svc, r))
    (hr : (k, f) ∈ Gen.tbl_from_image_unit_string_keys)
    (hh : assignments u (s "Image") k = earlier ++ [raw]) (hne : (unq raw).isEmpty = false) :
    [f, unq raw] <:+: imageCmd E u :=
  imageCmd_segs E u ▸ segString_last_infix
    (by simp only [imageSegs, List.mem_append, List.mem_map_of_mem hr, true_or, or_true]) hh hne

theorem C15_pod_command_last (E : Env) (path : Str) (u svc : SUnit) (cts : List Str) (k f : Str) (earlier : List Str) (raw : Str)
    (h : fromPod E path u cts = .ok svc)
    (hr : (k, f) ∈ Gen.tbl_from_pod_unit_string_keys)
    (hh : assignments u (s "Pod") k = earlier ++ [raw]) (hne : (unq raw).isEmpty = false) :
    ∃ cmd, HasExec svc "ExecStartPre" cmd ∧ [f, unq raw] <:+: cmd :=
  ⟨_, fromPod_segs E path u svc cts h, segString_last_infix
    (by simp only [podSegs, List.mem_append, List.mem_map_of_mem hr, true_or, or_true]) hh hne⟩

theorem C15_build_command_last (E : Env) (path : Str) (u svc : SUnit) (k f : Str) (earlier : List Str) (raw : Str)
    (h : fromBuild E path u = .ok svc)
    (hr : (k, f) ∈ Gen.tbl_from_build_unit_string_keys)
    (hh : assignments u (s "Build") k = earlier ++ [raw]) (hne : (unq raw).isEmpty = false) :
    ∃ cmd, HasExec svc "ExecStart" cmd ∧ [f, unq raw] <:+: cmd := by
  obtain ⟨nets, vols, fa, tail, hx⟩ := C02_build_shape E path u svc h
  refine ⟨_, hx, ?_⟩
  simp only [List.append_assoc]
  -- past `baseCmd`, `[build]` and the Pull block; the block of the string keys is next
  exact List.infix_append_of_infix_right <| List.infix_append_of_infix_right <| List.infix_append_of_infix_right <|
    List.infix_append_of_infix_left <| string_key_last_in_block u (s "Build") _ k f earlier raw hr hh hne

theorem C15_container_command_last (E : Env) (path : Str) (u svc : SUnit) (link : Option (Str × Str)) (k f : Str)
    (earlier : List Str) (raw : Str)
    (h : fromContainer E path u = some (.ok (svc, link)))
    (hr : (k, f) ∈ Gen.tbl_from_container_unit_string_keys)
    (hh : assignments u (s "Container") k = earlier ++ [raw]) (hne : (unq raw).isEmpty = false) :
    ∃ cmd, HasExec svc "ExecStart" cmd ∧ [f, unq raw] <:+: cmd :=
  ⟨_, fromContainer_segs E path u svc link h, segString_last_infix
    (by simp only [containerSegs, List.mem_append, List.mem_map_of_mem hr, true_or, or_true]) hh hne⟩

end Cv
