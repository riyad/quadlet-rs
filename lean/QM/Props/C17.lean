import QM.PathLemmas
/-! # C17 — relative paths resolve against the unit file's directory and are normalised

`Pth.components / cleaned / absoluteFrom / absoluteFromUnit / startsWithSpecifier` model
`std::path::Path::components` and path_buf_ext.rs; `Pth.Spec.clean` is the reference lexical
normaliser (split at '/', drop empty and "." parts, ".." removes the previous part and never
climbs above the root, re-join).  The call sites (Yaml, ConfigMap, EnvironmentFile, Volume/Mount
sources starting with '.', WorkingDirectory derivation) are checked on the real converters. -/
namespace Pth

/-- absolute paths are normalised exactly as the reference normaliser does -/
theorem C17_clean_eq_spec (p : Str) (h : isAbs p = true) : cleaned p = Spec.clean p := clean_eq_spec p h

/-- the result is rooted and has no ".", ".." or empty component: every part is a plain name -/
theorem C17_clean_normal (p : Str) (h : isAbs p = true) :
    ∃ xs : List Str, (∀ x ∈ xs, isNormal x = true) ∧
      cleaned p = (match xs with | [] => ['/'] | _ => xs.flatMap ('/' :: ·)) ∧ isAbs (cleaned p) = true := by
  refine ⟨Spec.cleanParts (splitSlash p), fold_specStep_normal _ [] (by simp), ?_, isAbs_cleaned p h⟩
  rw [C17_clean_eq_spec p h, Spec.clean]
  cases Spec.cleanParts (splitSlash p) <;> rfl

/-- how a path given in a unit file is resolved against an absolute directory -/
theorem C17_resolve (cwd dir p : Str) (hd : isAbs dir = true) :
    absoluteFrom cwd dir p =
      if startsWithSpecifier p then p
      else if isAbs p then Spec.clean p
      else Spec.clean (joinPath dir p) := by
  have hne : dir.isEmpty = false := by cases dir <;> simp_all [isAbs]
  unfold absoluteFrom
  by_cases hs : startsWithSpecifier p = true
  · simp [hs]
  · by_cases ha : isAbs p = true
    · simp [hs, ha, C17_clean_eq_spec p ha]
    · simp only [hs, ha, Bool.not_false, if_true, hne, Bool.false_eq_true, if_false]
      exact C17_clean_eq_spec _ (isAbs_joinPath dir p hd)

/-- … hence the result is absolute whenever the directory is and the path is no specifier path -/
theorem C17_absolute (cwd dir p : Str) (hd : isAbs dir = true) (hs : startsWithSpecifier p = false) :
    isAbs (absoluteFrom cwd dir p) = true := by
  rw [C17_resolve cwd dir p hd]
  simp only [hs, Bool.false_eq_true, if_false]
  split <;> exact isAbs_clean _

/-- a path that starts with a specifier is not resolved at all: it comes back as it was written, so what it begins with is still the
    specifier (D23: before the repair such a path was normalised like any other, and `%h/../x` became the relative path `x`) -/
theorem C17_specifier_kept (cwd dir p : Str) (hs : startsWithSpecifier p = true) : absoluteFrom cwd dir p = p := by
  unfold absoluteFrom; simp [hs]

example : absoluteFrom "/cwd".toList "/q".toList "%h/../x".toList = "%h/../x".toList := by decide +kernel

/-- the generator's current directory plays no role when the directory is not empty -/
theorem C17_no_cwd (cwd₁ cwd₂ dir p : Str) (hd : dir.isEmpty = false) :
    absoluteFrom cwd₁ dir p = absoluteFrom cwd₂ dir p := by
  unfold absoluteFrom; simp [hd]

/-- what counts as a specifier path: the first component is two bytes long, starts with '%' and is not "%%"
    (any second byte: `%h`, `%S`, `%1` alike; `%é` is three bytes and does not count) -/
theorem C17_specifier (p : Str) :
    startsWithSpecifier p = true ↔
      (1 < byteLen p ∧ firstComponentLen p = 2 ∧ startsWith p ['%', '%'] = false ∧ startsWith p ['%'] = true) := by
  unfold startsWithSpecifier
  by_cases h1 : byteLen p ≤ 1
  · simp [h1]; omega
  · by_cases h2 : firstComponentLen p = 2
    · by_cases h3 : startsWith p ['%', '%'] = true
      · simp [h1, h2, h3]
      · simp [h1, h2, h3]; omega
    · simp [h1, h2]

example : cleaned "/a/./b/../../c//d/".toList = "/c/d".toList := by decide +kernel
example : cleaned "/../..".toList = "/".toList := by decide +kernel
example : startsWithSpecifier "%h/x".toList = true ∧ startsWithSpecifier "%%/x".toList = false ∧ startsWithSpecifier "%abc".toList = false := by decide +kernel
example : startsWithSpecifier "%S/x".toList = true ∧ startsWithSpecifier "%1".toList = true ∧ startsWithSpecifier "%é/x".toList = false := by decide +kernel

end Pth
