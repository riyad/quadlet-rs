import QM.RefineLemmas
import QM.Proc
import QM.ProcLocal
import QM.ConvPod
/-! # C08, C09, C10 — the conversion loop refines an order-free, declarative name resolution

`Refine.run` is the loop of `process` in the abstract: a name table pre-filled before the loop
(`prefill`), a converter per unit that reads the table (`out`), may *publish* its object name into the table
(`publish`: .volume/.network/.image) and may *link* itself to another unit (`link`: a container appends itself to its
pod's start list), run over **any** ordering of the units that is sorted by priority (the sort is unstable, so the
theorem quantifies over all such orderings).  `Refine.decl` is the declarative result: every unit converted against
the *final* table `fin` and the complete list of its linkers.  `Cv.sys` (QM/Proc.lean) is the concrete system
(second half of this file); its priorities come from the `sorting_priority` table extracted from main.rs.

`Refine.Local` collects what the theorem needs from the converters: they read the table only at the names they
reference, everything they read is either published by a unit of strictly lower priority or never rewritten, and
links go to units of strictly higher priority. -/
namespace Refine
variable {U N V W O : Type} [DecidableEq N] (S : Sys U N V W O)

/-- every unit gets exactly its declarative result, whatever sorted order the unstable sort picked -/
theorem C08_process_refines (units order : List U) (hL : Local S units)
    (hd : (units.map S.name).Nodup) (hp : order.Perm units)
    (hs : order.Pairwise (fun a b => S.prio a ≤ S.prio b)) :
    run S (init S units) order = order.map (fun u => (u, decl S units order u)) :=
  run_of_inv S units order hL hd hp hs order [] (init S units) rfl (Inv.init S units)

/-- C09: the list a pod accumulates from its containers is the same multiset for every processing order -/
theorem C09_members_order_free (units o₁ o₂ : List U) (h : o₁.Perm o₂) (n : N) :
    (o₁.filterMap (linkTo S units n)).Perm (o₂.filterMap (linkTo S units n)) :=
  h.filterMap _

/-- C09: a unit is in a pod's list iff it links to that pod under the final table — no more, no fewer -/
theorem C09_members_exact (units order : List U) (n : N) (w : W) :
    w ∈ order.filterMap (linkTo S units n) ↔ ∃ c ∈ order, linkTo S units n c = some w := by
  simp [List.mem_filterMap]

/-- C10: a unit's declarative result does not change when units it neither reads nor is linked from are added,
    provided the converters are local and the added units do not take over a name it reads -/
theorem C10_independent (units extra order order' : List U) (u : U)
    (hloc : ∀ t₁ t₂ a, (∀ n ∈ S.reads u, t₁ n = t₂ n) → S.out u t₁ a = S.out u t₂ a)
    (hfin : ∀ n ∈ S.reads u, fin S (units ++ extra) n = fin S units n)
    (hlinks : order'.filterMap (linkTo S (units ++ extra) (S.name u)) = order.filterMap (linkTo S units (S.name u))) :
    decl S (units ++ extra) order' u = decl S units order u := by
  unfold decl
  rw [hlinks]
  exact hloc _ _ _ hfin

end Refine

namespace Cv

/-- the priorities the refinement needs, read off the table extracted from main.rs:
    .image < .volume = .network < .build < .container = .kube < .pod -/
theorem C08_priorities :
    prio (s "image") < prio (s "volume") ∧ prio (s "volume") = prio (s "network") ∧ prio (s "network") < prio (s "build") ∧
    prio (s "build") < prio (s "container") ∧ prio (s "container") = prio (s "kube") ∧ prio (s "kube") < prio (s "pod") := by
  obtain ⟨hi, hv, hn, hb, hc, hk, hp⟩ := prio_values
  rw [hi, hv, hn, hb, hc, hk, hp]
  decide

/-- the suffix each unit type adds to the file stem in its service name, as extracted from mod.rs (the formula itself — explicit
    ServiceName, else stem plus suffix — is `C08_service_name_formula`, QM/Props/C08Names.lean) -/
theorem C08_service_suffixes :
    suffixOf (s "container") = [] ∧ suffixOf (s "kube") = [] ∧ suffixOf (s "volume") = s "-volume" ∧
    suffixOf (s "network") = s "-network" ∧ suffixOf (s "image") = s "-image" ∧ suffixOf (s "build") = s "-build" ∧
    suffixOf (s "pod") = s "-pod" := by decide +kernel


/-! ### the same statements for the concrete model `Cv.sys` that is run against the code

`Cv.sys isUser` (QM/Proc.lean) is the conversion loop of `process` with the real converter models; `Drv.convertOp`
executes exactly `Refine.step (Cv.sys isUser)` and is compared with the repository's loop on unit sets in sorted and
unsorted orders.  `Cv.sys_local` discharges the hypotheses of the abstract theorem for it: every converter model reads
the name table only at the names in its static read set (`readsOf`), whatever it reads is published by a unit of
strictly lower priority or never rewritten (priorities from the table extracted from main.rs), and a container can
only link to a `.pod`, which sorts strictly later. -/

/-- C08 (concrete): for every set of loadable units with distinct file names and **every** priority-sorted processing
    order, the loop gives every unit exactly its declarative result: its converter run against the final name table
    (every referenced unit's published name) and the complete list of the containers that joined it -/
theorem C08_process_concrete (isUser : Bool) (units order : List QUnit) (hl : Loadable units)
    (hd : (units.map QUnit.name).Nodup) (hp : order.Perm units) (hs : SortedByPrio order) :
    runOrder isUser units order = order.map (fun u => (u, Refine.decl (sys isUser) units order u)) :=
  Refine.C08_process_refines (sys isUser) units order (sys_local isUser units hl) (by rwa [sys_name]) hp
    (by simp only [sys_prio]; exact hs)

/-- … in particular for the order the model's own sort picks (no hypothesis on the order left) -/
theorem C08_processUnits (qs : List QUnit) (hl : Loadable qs) (hd : (qs.map QUnit.name).Nodup) :
    processUnits qs = (sortByPrio qs).map (fun u => (u, Refine.decl (sys false) qs (sortByPrio qs) u)) :=
  C08_process_concrete false qs (sortByPrio qs) hl hd (sortByPrio_perm qs) (sortByPrio_sorted qs)

/-- C08/C10 (concrete): two priority-sorted processing orders of the same units give every unit the same result up to
    the order of the containers a pod accumulated -/
theorem C08_order_irrelevant (isUser : Bool) (units o₁ o₂ : List QUnit) (hl : Loadable units)
    (hd : (units.map QUnit.name).Nodup) (h₁ : o₁.Perm units) (h₂ : o₂.Perm units) (s₁ : SortedByPrio o₁) (s₂ : SortedByPrio o₂)
    (u : QUnit) (hu : u ∈ units) :
    ∃ a₁ a₂, a₁.Perm a₂ ∧
      (u, convOut isUser (Refine.fin (sys isUser) units) a₁ u) ∈ runOrder isUser units o₁ ∧
      (u, convOut isUser (Refine.fin (sys isUser) units) a₂ u) ∈ runOrder isUser units o₂ := by
  have mem (o : List QUnit) (h : o.Perm units) (hs : SortedByPrio o) :
      (u, convOut isUser (Refine.fin (sys isUser) units) (o.filterMap (Refine.linkTo (sys isUser) units u.name)) u)
        ∈ runOrder isUser units o := by
    rw [C08_process_concrete isUser units o hl hd h hs]
    exact List.mem_map.mpr ⟨u, h.symm.subset hu, by rw [Refine.decl, sys_out, sys_name]⟩
  exact ⟨_, _, (h₁.trans h₂.symm).filterMap _, mem o₁ h₁ s₁, mem o₂ h₂ s₂⟩

/-- C09 (concrete): the service files a pod is given to start are exactly those of the containers whose conversion
    (against the final name table) succeeds and has gone through `handle_pod` with that pod and StartWithPod on (`linkOf`) — no
    more, no fewer -/
theorem C09_members_concrete (isUser : Bool) (units order : List QUnit) (pod w : Str) :
    w ∈ order.filterMap (Refine.linkTo (sys isUser) units pod) ↔
      ∃ c ∈ order, linkOf isUser c (Refine.fin (sys isUser) units) = some (pod, w) := by
  simp only [List.mem_filterMap, Refine.linkTo_eq_some, sys_link]

/-- C10 (concrete): adding units changes nothing for a unit that neither reads them nor is joined by them -/
theorem C10_independent_concrete (isUser : Bool) (units extra order order' : List QUnit) (u : QUnit)
    (hfin : ∀ n ∈ readsOf u, Refine.fin (sys isUser) (units ++ extra) n = Refine.fin (sys isUser) units n)
    (hlinks : order'.filterMap (Refine.linkTo (sys isUser) (units ++ extra) u.name) = order.filterMap (Refine.linkTo (sys isUser) units u.name)) :
    Refine.decl (sys isUser) (units ++ extra) order' u = Refine.decl (sys isUser) units order u := by
  unfold Refine.decl
  rw [sys_name, hlinks, sys_out, sys_out]
  exact convOut_congr isUser _ _ _ u hfin

/-- the hypotheses are satisfiable: a volume, a pod and a container (units without keys: both hypotheses look at the paths only) -/
example : Loadable [⟨s "/q/a.volume", []⟩, ⟨s "/q/p.pod", []⟩, ⟨s "/q/c.container", []⟩] ∧
    ([⟨s "/q/a.volume", []⟩, ⟨s "/q/p.pod", []⟩, ⟨s "/q/c.container", []⟩] : List QUnit).map QUnit.name
      = [s "a.volume", s "p.pod", s "c.container"] := by
  unfold Loadable
  decide +kernel


/-! ### C09, the pod's side, in the converter model

`C08_process_concrete` says the pod converter receives exactly the service files of the containers that joined the pod
(`Refine.decl`: the complete list of linkers, in processing order).  `C09_pod_wants_members` says what it does with
them: the `Wants=` and the `Before=` entries of the generated pod service are the ones the unit already had (default
dependencies, the user's own) followed by exactly one per member, in that order — no more, no fewer. -/

theorem C09_pod_wants_members (E : Env) (path : Str) (u svc : MM.SUnit) (cs : List Str) (h : fromPod E path u cs = .ok svc) :
    keyEntries svc (s "Unit") (s "Wants")
      = keyEntries (preService path u (s "Pod") (s "X-Pod")) (s "Unit") (s "Wants") ++ cs.map (fun c => (s "Wants", P.quoteValue c)) ∧
    keyEntries svc (s "Unit") (s "Before")
      = keyEntries (preService path u (s "Pod") (s "X-Pod")) (s "Unit") (s "Before") ++ cs.map (fun c => (s "Before", P.quoteValue c)) :=
  ⟨pod_members E path u svc cs h "Wants" (Or.inl rfl), pod_members E path u svc cs h "Before" (Or.inr rfl)⟩


/-! ### C08, the statement itself, in the converter models

What a reference does when the referenced unit is known (the object name from the table replaces the file name;
`Requires=` and `After=` on the target's service file are added) and when it is not (the referrer fails, naming the
file); and that the name in the table is the name the target's own command creates. -/

open MM

theorem C08_image_reference (E : Env) (n : Str) (svc : MM.SUnit) (i : Info)
    (hn : (endsWith n (s ".build") || endsWith n (s ".image")) = true) (hi : E.info n = some i) :
    handleImageSource E n svc = .ok (i.resourceName,
      addS (addS svc "Unit" "Requires" (serviceFileName i)) "Unit" "After" (serviceFileName i)) := by
  unfold handleImageSource; simp [hn, hi]

theorem C08_image_reference_missing (E : Env) (n : Str) (svc : MM.SUnit)
    (hn : (endsWith n (s ".build") || endsWith n (s ".image")) = true) (hi : E.info n = none) :
    handleImageSource E n svc = .error (.imageNotFound n) := by
  unfold handleImageSource; simp [hn, hi]

theorem C08_network_reference (E : Env) (n : Str) (svc : MM.SUnit) (i : Info)
    (hn : (endsWith n (s ".network") || endsWith n (s ".container")) = true) (hi : E.info n = some i)
    (hr : i.resourceName.isEmpty = false) :
    networkRef E n svc = .ok (i.resourceName,
      addS (addS svc "Unit" "Requires" (serviceFileName i)) "Unit" "After" (serviceFileName i)) := by
  unfold networkRef; simp [hn, hi, hr]

theorem C08_network_reference_missing (E : Env) (n : Str) (svc : MM.SUnit)
    (hn : (endsWith n (s ".network") || endsWith n (s ".container")) = true) (hi : E.info n = none) :
    networkRef E n svc = .error (Err.internal (s "unit") n) := by
  unfold networkRef; simp [hn, hi]

theorem C08_pod_reference (E : Env) (u : MM.SUnit) (sec : Str) (svc : MM.SUnit) (own pod : Str) (i : Info)
    (hp : lookup u sec (s "Pod") = some pod) (hne : pod.isEmpty = false) (hs : endsWith pod (s ".pod") = true)
    (hi : E.info pod = some i) :
    ∃ link, handlePod E u sec svc own = .ok ([s "--pod-id-file", s "%t/" ++ i.serviceName ++ s ".pod-id"],
      addS (addS svc "Unit" "BindsTo" (serviceFileName i)) "Unit" "After" (serviceFileName i), link) := by
  unfold handlePod; simp [hp, hne, hs, hi]

theorem C08_pod_reference_missing (E : Env) (u : MM.SUnit) (sec : Str) (svc : MM.SUnit) (own pod : Str)
    (hp : lookup u sec (s "Pod") = some pod) (hne : pod.isEmpty = false) (hs : endsWith pod (s ".pod") = true)
    (hi : E.info pod = none) : handlePod E u sec svc own = .error (.podNotFound pod) := by
  unfold handlePod; simp [hp, hne, hs, hi]

theorem C08_pod_reference_not_a_pod (E : Env) (u : MM.SUnit) (sec : Str) (svc : MM.SUnit) (own pod : Str)
    (hp : lookup u sec (s "Pod") = some pod) (hne : pod.isEmpty = false) (hs : endsWith pod (s ".pod") = false) :
    handlePod E u sec svc own = .error (.invalidPod pod) := by
  unfold handlePod; simp [hp, hne, hs]

/-- the name a volume publishes is the name its own command creates -/
theorem C08_volume_name_consistent (E : Env) (path : Str) (u svc : MM.SUnit) (n : Str)
    (h : fromVolume E path u = .ok (svc, n)) : volumePublished ⟨path, u⟩ = some n := by
  unfold fromVolume at h
  simp only [bind_ok] at h
  -- in the order of the `do` block: the two key checks (`h1`, `h2`), `volumeOpts`, `addRawExec`, the final `pure`
  obtain ⟨_, h1, _, h2, x, _, svc1, _, hfin⟩ := h
  simp only [pure, Except.pure, Except.ok.injEq, Prod.mk.injEq] at hfin
  obtain ⟨_, rfl⟩ := hfin
  have passed {sec sup x} (h : checkUnknown u sec sup = .ok x) : firstUnknown (entriesOf u sec) sup = none := by
    cases hf : firstUnknown (entriesOf u sec) sup with
    | none => rfl
    | some k => rw [checkUnknown_err u sec sup k hf] at h; cases h
  -- `volumePublished` asks for nothing but the two checks, and then computes the name as `fromVolume` does
  simp [volumePublished, passed h1, passed h2, QUnit.name]


/-- a .network / .image unit publishes exactly the name its own conversion returns (for a network, by `C02_network_shape`, the
    last argument of its command), whatever the name table holds -/
theorem C08_network_publishes_what_it_creates (b : Bool) (t : Str → Option Info) (q : QUnit) (svc : MM.SUnit) (r : Str)
    (hty : q.ty = s "network") (h : fromNetwork (envOf b t) q.path q.unit = .ok (svc, r)) :
    publishOf b q = some { serviceName := serviceNameOf q.path q.unit, resourceName := r } := by
  rw [publishOf_network b q hty, fromNetwork_congr b (fun _ => none) t, h]

theorem C08_image_publishes_what_it_creates (b : Bool) (t : Str → Option Info) (q : QUnit) (svc : MM.SUnit) (r : Str)
    (hty : q.ty = s "image") (h : fromImage (envOf b t) q.path q.unit = .ok (svc, r)) :
    publishOf b q = some { serviceName := serviceNameOf q.path q.unit, resourceName := r } := by
  rw [publishOf_image b q hty, fromImage_congr b (fun _ => none) t, h]

end Cv
