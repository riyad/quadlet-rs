import QM.RunLemmas
import QM.Props.C19
/-! # C19 at the level of the whole run — over `Cv.process`, the model of `process()` that is compared with real `--dry-run` and
    normal runs of the binary on the same trees (prints, written files, links, errors, exit status). -/
namespace Cv
open MM

def Eff.isPrint : Eff → Bool
  | .print _ _ => true
  | _ => false

def printsOf (r : ProcOut) : List (Str × Str) := r.effs.filterMap fun | .print p x => some (p, x) | _ => none
def writesOf (r : ProcOut) : List (Str × Str) := r.effs.filterMap fun | .write p x => some (p, x) | _ => none

def RunErr.isIo : RunErr → Bool
  | .mkdir _ => true
  | .write _ => true
  | _ => false

def dry (cfg : Cfg) : Cfg := { cfg with dryRun := true }
def wet (cfg : Cfg) : Cfg := { cfg with dryRun := false }

@[simp] theorem dryRun_dry (cfg : Cfg) : (dry cfg).dryRun = true := rfl
@[simp] theorem dryRun_wet (cfg : Cfg) : (wet cfg).dryRun = false := rfl
@[simp] theorem svcPathOf_dry (cfg : Cfg) : svcPathOf (dry cfg) = svcPathOf cfg := rfl
@[simp] theorem svcPathOf_wet (cfg : Cfg) : svcPathOf (wet cfg) = svcPathOf cfg := rfl

theorem stepEffs_dry (cfg : Cfg) (w : World) (h : cfg.dryRun = true) (qo : QUnit × Out) :
    stepEffs cfg w qo = match qo.2 with
      | .ok svc => [Eff.print (svcPathOf cfg qo.1) (Parse.printUnit svc)]
      | _ => [] := by
  unfold stepEffs; cases qo.2 <;> simp [h]

theorem stepErrs_dry (cfg : Cfg) (w : World) (h : cfg.dryRun = true) (qo : QUnit × Out) :
    stepErrs cfg w qo = match qo.2 with
      | .err e => [RunErr.convert qo.1.path e]
      | _ => [] := by
  unfold stepErrs; cases qo.2 <;> simp [h]

/-- `--dry-run` creates, modifies and deletes nothing: every effect of the run is a print -/
theorem C19_dry_run_touches_nothing (cfg : Cfg) (w : World) (t : Tree) (h : cfg.dryRun = true) :
    ∀ e ∈ (process cfg w t).effs, e.isPrint = true := by
  intro e he
  rcases mem_effs cfg w t e he with ⟨_, hd⟩ | ⟨qo, _, hin⟩
  · rw [h] at hd; cases hd
  · rw [stepEffs_dry cfg w h] at hin
    cases hq : qo.2 <;> simp [hq] at hin
    subst hin; rfl

/-- the dry run does not depend on what the file system would answer -/
theorem C19_dry_run_ignores_the_world (cfg : Cfg) (w w' : World) (t : Tree) (h : cfg.dryRun = true) :
    process cfg w t = process cfg w' t := by
  rw [process_loop cfg w t (Or.inl h), process_loop cfg w' t (Or.inl h),
    funext (stepEffs_dry cfg w h), funext (stepErrs_dry cfg w h), funext (stepEffs_dry cfg w' h), funext (stepErrs_dry cfg w' h)]

theorem flatMap_sublist {α β} (f g : α → List β) (h : ∀ a, (f a).Sublist (g a)) (l : List α) : (l.flatMap f).Sublist (l.flatMap g) := by
  induction l with
  | nil => simp
  | cons a l ih => simpa only [List.flatMap_cons] using (h a).append ih

/-- what ties the two runs together while they go through the same converted units, whatever the file system answers:
    the normal run's errors are the dry run's plus I/O errors, and it writes a sub-sequence of what the dry run prints -/
structure Paired (d n : ProcOut) : Prop where
  texts : (writesOf n).Sublist (printsOf d)
  errs : d.errs = n.errs.filter (fun e => !e.isIo)
  oom : d.outOfModel = n.outOfModel

def Eff.printed : Eff → Option (Str × Str) | .print p x => some (p, x) | _ => none
def Eff.written : Eff → Option (Str × Str) | .write p x => some (p, x) | _ => none

theorem step_paired (cfg : Cfg) (w w' : World) (qo : QUnit × Out) :
    ((stepEffs (wet cfg) w qo).filterMap Eff.written).Sublist ((stepEffs (dry cfg) w' qo).filterMap Eff.printed)
      ∧ stepErrs (dry cfg) w' qo = (stepErrs (wet cfg) w qo).filter (fun e => !e.isIo) := by
  unfold stepEffs stepErrs
  cases qo.2 with
  | err e => exact ⟨.slnil, rfl⟩
  | outOfModel => exact ⟨.slnil, rfl⟩
  | ok svc =>
    simp only [writtenText, Parse.C19_serialisers]
    cases writeOk (wet cfg) w qo.1 svc
    · exact ⟨List.nil_sublist _, rfl⟩
    · exact ⟨List.Sublist.refl _, rfl⟩

theorem earlyErrs_no_io (t : Tree) : (earlyErrs t).filter (fun e => !e.isIo) = earlyErrs t :=
  List.filter_eq_self.mpr (by
    intro e he
    simp only [earlyErrs, List.mem_append, List.mem_map] at he
    rcases he with ⟨_, _, rfl⟩ | ⟨_, _, rfl⟩ <;> rfl)

theorem mkdir_silent (c : Bool) (p : Str) :
    (if c then [] else [Eff.mkdir p]).filterMap Eff.written = [] ∧ (if c then [] else [Eff.mkdir p]).filterMap Eff.printed = [] := by
  cases c <;> exact ⟨rfl, rfl⟩

/-- with the same inputs a normal run reports the errors of the dry run plus the I/O errors it meets (and only those), and
    every text it writes was printed by the dry run under the same path, in the same order -/
theorem C19_paired (cfg : Cfg) (w w' : World) (t : Tree) (hm : w.mkdirOk = true) :
    Paired (process (dry cfg) w' t) (process (wet cfg) w t) := by
  rw [process_loop (dry cfg) w' t (Or.inl rfl), process_loop (wet cfg) w t (Or.inr hm)]
  refine ⟨?_, ?_, rfl⟩
  · show (List.filterMap Eff.written _).Sublist (List.filterMap Eff.printed _)
    simp only [List.filterMap_append, List.filterMap_flatMap, mkdir_silent, List.nil_append]
    exact flatMap_sublist _ _ (fun qo => (step_paired cfg w w' qo).1) _
  · simp only [List.filter_append, List.filter_flatMap, earlyErrs_no_io]
    rw [funext fun qo => (step_paired cfg w w' qo).2]

theorem C19_errors_modulo_io (cfg : Cfg) (w w' : World) (t : Tree) (hm : w.mkdirOk = true) :
    (process (dry cfg) w' t).errs = (process (wet cfg) w t).errs.filter (fun e => !e.isIo) :=
  (C19_paired cfg w w' t hm).errs

/-- no creation and no write of a service file fails -/
def World.sound (w : World) : Prop := w.mkdirOk = true ∧ ∀ p, w.fault p = Wr.Fault.none

theorem writeOk_sound (cfg : Cfg) (w : World) (hw : w.sound) (q : QUnit) (svc : SUnit) : writeOk cfg w q svc = true := by
  unfold writeOk; rw [hw.2]; rfl

theorem step_sound (cfg : Cfg) (w w' : World) (hw : w.sound) (qo : QUnit × Out) :
    (stepEffs (wet cfg) w qo).filterMap Eff.written = (stepEffs (dry cfg) w' qo).filterMap Eff.printed
      ∧ stepErrs (wet cfg) w qo = stepErrs (dry cfg) w' qo := by
  unfold stepEffs stepErrs
  cases qo.2 <;> simp [writeOk_sound _ w hw, Eff.written, Eff.printed, writtenText, Parse.C19_serialisers]

/-- when no write fails, the normal run reports what the dry run reports: the same load, drop-in and conversion errors -/
theorem C19_same_errors (cfg : Cfg) (w w' : World) (hw : w.sound) (t : Tree) :
    (process (dry cfg) w' t).errs = (process (wet cfg) w t).errs := by
  rw [process_loop (dry cfg) w' t (Or.inl rfl), process_loop (wet cfg) w t (Or.inr hw.1),
    funext fun qo => (step_sound cfg w w' hw qo).2]

/-- for every unit, in the same order and under the same path, `--dry-run` prints exactly the text a normal run writes into the
    service file after the generated-by line -/
theorem C19_prints_what_a_run_writes (cfg : Cfg) (w w' : World) (hw : w.sound) (t : Tree) :
    printsOf (process (dry cfg) w' t) = writesOf (process (wet cfg) w t) := by
  show List.filterMap Eff.printed _ = List.filterMap Eff.written _
  rw [process_loop (dry cfg) w' t (Or.inl rfl), process_loop (wet cfg) w t (Or.inr hw.1)]
  simp only [List.filterMap_append, List.filterMap_flatMap, mkdir_silent, List.nil_append]
  rw [funext fun qo => (step_sound cfg w w' hw qo).1]

/-- when no write fails, the two runs end with the same exit status -/
theorem C19_same_exit (cfg : Cfg) (w w' : World) (hw : w.sound) (t : Tree) :
    (process (dry cfg) w' t).exit = (process (wet cfg) w t).exit := by
  unfold ProcOut.exit; rw [C19_same_errors cfg w w' hw t]

/-- the hypothesis on the world is met -/
example : World.fine.sound := ⟨rfl, fun _ => rfl⟩


theorem applyEff_print (cfg : Cfg) (d : OutDir) (e : Eff) (h : e.isPrint = true) : applyEff cfg d e = d := by
  cases e <;> simp_all [Eff.isPrint, applyEff]

/-- the output directory after a dry run, as far as the run is concerned: nothing in it, nothing disturbed -/
theorem C19_dry_run_leaves_outdir_empty (cfg : Cfg) (w : World) (t : Tree) (h : cfg.dryRun = true) :
    finalOut cfg (process cfg w t) = { files := [], links := [], clash := false } :=
  List.foldlRecOn (motive := (· = _)) _ _ rfl fun d hd e he => by
    rw [applyEff_print cfg d e (C19_dry_run_touches_nothing cfg w t h e he), hd]

end Cv
