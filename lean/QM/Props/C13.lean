import QM.FsDropins
import QM.Props.C15
import QM.Props.C03
import QM.MergeLemmas
/-! # C13 — search order picks among same-named files; drop-ins come from every search dir

`Cv.candidates t` lists the unit files of an abstract tree in discovery order (every directory of the search order —
each search directory followed by its sub-directories — and within it the files with a supported extension);
`Cv.loadFrom` is the fold of `load_units_from_dir` with its `seen` set; `Cv.loadDropins` models
`load_dropins_from` (after the D9 repair).  Directory listing order inside one directory is a parameter of the
tree (readdir order is unspecified).  The model of the whole run (`Cv.runTree`) is compared with real runs of the
binary on generated trees. -/
namespace Cv

/-- at most one unit is loaded per file name -/
theorem C13_one_per_name (cands : List (Str × Str)) : ((loadedUnits (loadFrom cands)).map QUnit.name).Nodup := by
  rw [loadedUnits_loadFrom]; exact foldl_first_nodup QUnit.name _

/-- … and it is the first file of that name, in search order, that can be loaded -/
theorem C13_first_wins (cands : List (Str × Str)) :
    ∀ q ∈ loadedUnits (loadFrom cands), FirstWins cands q := by
  intro q hq
  rw [loadedUnits_loadFrom, mem_foldl_first QUnit.name, List.find?_filterMap] at hq
  simp only [List.not_mem_nil, List.any_nil, true_and, false_or] at hq
  obtain ⟨pc, hf, hpc⟩ := Option.bind_eq_some_iff.mp hq
  obtain ⟨_, pre, post, rfl, hpre⟩ := List.find?_eq_some_iff_append.mp hf
  obtain ⟨p, c⟩ := pc
  obtain ⟨rfl, hu⟩ := okUnit_eq_some hpc
  refine ⟨pre, c, post, rfl, hu, fun pc' hpc' hn u' hu' => ?_⟩
  -- before `(q.path, c)`, the first candidate that loads under the name of `q`, no candidate does; but `pc'` loads (`hu'`) under it (`hn`)
  have : (okUnit pc').any (·.name == q.name) = false := (Bool.not_eq_true' _).mp (hpre pc' hpc')
  simp [okUnit_of_ok hu', QUnit.name, hn] at this


/-- drop-ins are merged after the main file, one after the other: the assignment history of every key is the main
    file's followed by the drop-ins' in merge order (so C15's folds see the main file first) -/
theorem C13_merge_order (main : MM.SUnit) (dropins : List MM.SUnit) (hnd : ∀ f ∈ dropins, (f.map Prod.fst).Nodup) (sec key : Str) :
    assignments (dropins.foldl MM.mergeFrom main) sec key
      = assignments main sec key ++ dropins.flatMap (assignments · sec key) :=
  C15_history main dropins hnd sec key


/-! ### drop-ins: the statements are about the list that `loadDropins` folds `mergeStep` over -/

theorem C13_dropin_dirs (dirs : List Str) (n : Str) :
    dropinDirs dirs n = dirs.map (fun d => d ++ '/' :: n ++ s ".d") ++
      (match templateParts n with
       | (some b, some _) => dirs.map (fun d => d ++ '/' :: b ++ s "@." ++ extension n ++ s ".d")
       | _ => []) := by
  unfold dropinDirs; rfl

/-- at most one drop-in per file name is merged -/
theorem C13_dropins_one_per_name (t : Tree) (dd : List Str) : ((sortConfs (collectConfs t dd)).map Prod.fst).Nodup :=
  ((sortConfs_perm _).map Prod.fst).nodup_iff.mpr (collect_names_nodup t dd)

/-- … it comes from the first directory, in priority order, that holds a `*.conf` of that name: a drop-in in an earlier
    directory hides the same name in every later one -/
theorem C13_dropins_first_dir_wins (t : Tree) (dd : List Str) : ∀ c ∈ sortConfs (collectConfs t dd), FromFirst t dd c :=
  fun c hc => collect_from_first t dd c ((sortConfs_perm _).subset hc)

/-- … every name found in any of the directories is merged (from some directory) -/
theorem C13_dropins_complete (t : Tree) (dd : List Str) (d n : Str) (hd : d ∈ dd) (hn : n ∈ confsIn t d) :
    n ∈ (sortConfs (collectConfs t dd)).map Prod.fst :=
  ((sortConfs_perm _).map Prod.fst).symm.subset (collect_complete t dd d n hd hn)

/-- … and they are merged in byte-wise name order, whatever directories they come from -/
theorem C13_dropins_name_order (t : Tree) (dd : List Str) : SortedByName (sortConfs (collectConfs t dd)) :=
  sortConfs_sorted _

/-! ### one file or a main file with drop-ins: the same unit

What C03 (repeated headers extend a section), C13 (drop-ins are merged after the main file) and C15 (histories) say
together, and what the file-level spelling oracle (`harness/filespell.py`) checks on the real loader: a unit spelled as one
file, cut at any section boundary into a main file and a drop-in (which re-opens whatever section it continues), reads as
the same unit — every section holds the same entries in the same order, so every lookup answers the same.  (Which
*empty* sections exist, and the order of sections that the drop-in opens first, are not part of this statement:
`merge_from` does not create a section for a header without entries.) -/

theorem parse_split (env : Parse.Env) (r₁ r₂ : List Parse.RSect) (wf₁ : ∀ s ∈ r₁, s.WF env) (wf₂ : ∀ s ∈ r₂, s.WF env) :
    Parse.parse env (Parse.renderSects r₁ ++ Parse.renderSects r₂) = .ok (Parse.eraseSects (Parse.eraseSects [] r₁) r₂) := by
  rw [← Parse.renderSects_append, Parse.C03_parse_render env (r₁ ++ r₂) (List.forall_mem_append.mpr ⟨wf₁, wf₂⟩),
    Parse.eraseSects_append]

/-- the single file `r₁ ++ r₂` and the main file `r₁` merged with the drop-in `r₂` hold, section by section, the same entries -/
theorem C13_split_equiv (env : Parse.Env) (r₁ r₂ : List Parse.RSect)
    (wf₁ : ∀ s ∈ r₁, s.WF env) (wf₂ : ∀ s ∈ r₂, s.WF env) :
    ∃ whole main dropin,
      Parse.parse env (Parse.renderSects r₁ ++ Parse.renderSects r₂) = .ok whole ∧
      Parse.parse env (Parse.renderSects r₁) = .ok main ∧
      Parse.parse env (Parse.renderSects r₂) = .ok dropin ∧
      ∀ sec, MM.entriesOf whole sec = MM.entriesOf (MM.mergeFrom main dropin) sec := by
  exact ⟨_, _, _, parse_split env r₁ r₂ wf₁ wf₂, Parse.C03_parse_render env r₁ wf₁, Parse.C03_parse_render env r₂ wf₂,
    Parse.entriesOf_eraseSects_merge r₂ _⟩

/-- … hence the same assignment history for every key, and with it the same answer of `lookupAllValues` and `lookupLastValue`
    (the other lookups of C15 are functions of the history as well; not stated here) -/
theorem C13_split_histories (env : Parse.Env) (r₁ r₂ : List Parse.RSect)
    (wf₁ : ∀ s ∈ r₁, s.WF env) (wf₂ : ∀ s ∈ r₂, s.WF env) (whole main dropin : MM.SUnit)
    (hw : Parse.parse env (Parse.renderSects r₁ ++ Parse.renderSects r₂) = .ok whole)
    (hm : Parse.parse env (Parse.renderSects r₁) = .ok main) (hd : Parse.parse env (Parse.renderSects r₂) = .ok dropin)
    (sec key : Str) :
    assignments whole sec key = assignments (MM.mergeFrom main dropin) sec key ∧
    lookupAllValues whole sec key = lookupAllValues (MM.mergeFrom main dropin) sec key ∧
    lookupLastValue whole sec key = lookupLastValue (MM.mergeFrom main dropin) sec key := by
  obtain ⟨w, m, d, h1, h2, h3, h4⟩ := C13_split_equiv env r₁ r₂ wf₁ wf₂
  cases hw.symm.trans h1; cases hm.symm.trans h2; cases hd.symm.trans h3
  have e : assignments whole sec key = assignments (MM.mergeFrom main dropin) sec key := by
    unfold assignments; rw [h4]
  exact ⟨e, lookupAllValues_congr e, lookupLastValue_congr e⟩

/-- … and when every section of the drop-in carries at least one entry, the two are the *same unit*: same sections in the same
    order, same entries in the same order — so whatever is computed from the unit (every converter, the whole run) is the same -/
theorem C13_split_exact (env : Parse.Env) (r₁ r₂ : List Parse.RSect)
    (wf₁ : ∀ s ∈ r₁, s.WF env) (wf₂ : ∀ s ∈ r₂, s.WF env) (hne : ∀ s ∈ r₂, Parse.eraseItems s.items ≠ []) :
    ∃ main dropin,
      Parse.parse env (Parse.renderSects r₁) = .ok main ∧
      Parse.parse env (Parse.renderSects r₂) = .ok dropin ∧
      Parse.parse env (Parse.renderSects r₁ ++ Parse.renderSects r₂) = .ok (MM.mergeFrom main dropin) :=
  ⟨_, _, Parse.C03_parse_render env r₁ wf₁, Parse.C03_parse_render env r₂ wf₂, by
    rw [parse_split env r₁ r₂ wf₁ wf₂, Parse.eraseSects_eq_merge r₂ hne _ (Parse.nodup_eraseSects r₁ [] List.nodup_nil)]⟩

/-- the loop over all units gives the same services whether a unit came from one file or from a main file and such a drop-in
    (the unit in the list is the same value: the run model reads nothing but the merged unit) -/
theorem C13_split_same_services (env : Parse.Env) (r₁ r₂ : List Parse.RSect)
    (wf₁ : ∀ s ∈ r₁, s.WF env) (wf₂ : ∀ s ∈ r₂, s.WF env) (hne : ∀ s ∈ r₂, Parse.eraseItems s.items ≠ [])
    (whole main dropin : MM.SUnit)
    (hw : Parse.parse env (Parse.renderSects r₁ ++ Parse.renderSects r₂) = .ok whole)
    (hm : Parse.parse env (Parse.renderSects r₁) = .ok main) (hd : Parse.parse env (Parse.renderSects r₂) = .ok dropin)
    (path : Str) (before after : List QUnit) :
    processUnits (before ++ { path := path, unit := whole } :: after)
      = processUnits (before ++ { path := path, unit := MM.mergeFrom main dropin } :: after) := by
  obtain ⟨m, d, h1, h2, h3⟩ := C13_split_exact env r₁ r₂ wf₁ wf₂ hne
  cases hm.symm.trans h1; cases hd.symm.trans h2; cases hw.symm.trans h3
  rfl

def exEnv : Parse.Env := { keyChar := fun c => c.isAlphanum || c == '-', validRaw := fun _ => true }
def exItem (v : String) : Parse.Item := .entry ⟨[], "Key".toList, [], [], [], v.toList⟩
def exSect (v : String) : Parse.RSect := ⟨"A".toList, [exItem v]⟩

theorem exItem_wf (v : String) (hb : Parse.bsOK v.toList = true) (hh : ∀ c, v.toList.head? = some c → Parse.isSpTab c = false) :
    (exItem v).WF exEnv :=
  ⟨(fun _ h => nomatch h), (fun _ h => nomatch h), (fun _ h => nomatch h), (by decide : "Key".toList ≠ []),
    (by decide : "Key".toList.all exEnv.keyChar = true), (by decide : ∀ c ∈ "Key".toList, Parse.stopKey c = false),
    fun c h => by cases h; decide, hb, hh⟩

theorem exItem_wf₁ : (exItem "v 1").WF exEnv := exItem_wf "v 1" (by decide) fun c h => by cases h; decide

theorem exItem_wf₂ : (exItem "w").WF exEnv := exItem_wf "w" (by decide) fun c h => by cases h; decide

/-- the hypotheses of `C13_split_equiv` are met by concrete renderings with entries: `[A]\nKey=v 1\n` and `[A]\nKey=w\n` -/
example : (exSect "v 1").WF exEnv ∧ (exSect "w").WF exEnv := by
  refine ⟨⟨by decide, by decide, ?_, by rfl⟩, ⟨by decide, by decide, ?_, by rfl⟩⟩
  · intro it h; simp [exSect] at h; subst h; exact exItem_wf₁
  · intro it h; simp [exSect] at h; subst h; exact exItem_wf₂

/-! ### a drop-in that cannot be loaded is never forgotten -/

def confLoads (t : Tree) (c : Str × Str) : Bool :=
  match t.files.lookup c.2 with
  | none => false
  | some content => match Parse.parse parseEnv content with
    | .ok _ => true
    | .error _ => false

theorem mergeStep_failed (t : Tree) (acc : QUnit × Bool) (c : Str × Str) :
    (mergeStep t acc c).2 = (acc.2 || !confLoads t c) := by
  unfold mergeStep confLoads
  obtain ⟨q, b⟩ := acc
  cases b
  · simp only [Bool.false_eq_true, if_false, Bool.false_or]
    cases t.files.lookup c.2 with
    | none => rfl
    | some content => simp only; cases Parse.parse parseEnv content <;> rfl
  · rfl

theorem merge_failed (t : Tree) (cs : List (Str × Str)) (acc : QUnit × Bool) :
    (cs.foldl (mergeStep t) acc).2 = (acc.2 || cs.any (fun c => !confLoads t c)) := by
  induction cs generalizing acc with
  | nil => simp
  | cons c cs ih => rw [List.foldl_cons, ih, mergeStep_failed, List.any_cons, Bool.or_assoc]

theorem mergeStep_sticky (t : Tree) (cs : List (Str × Str)) (q : QUnit) : (cs.foldl (mergeStep t) (q, true)).2 = true := by
  rw [merge_failed]; rfl

/-- whatever else is merged before or after it — drop-ins that load, in any number — one drop-in that does not load makes the merge of
    that unit report a failure (what the caller does with the flag is not part of the statement: `runTree` counts a drop-in error,
    and then the exit status is 1, `C10_exit_one_of_any_failure`) -/
theorem C13_dropin_failure_never_forgotten (t : Tree) (cs : List (Str × Str)) (acc : QUnit × Bool)
    (h : ∃ c ∈ cs, confLoads t c = false) : (cs.foldl (mergeStep t) acc).2 = true := by
  obtain ⟨c, hc, hf⟩ := h
  rw [merge_failed, List.any_eq_true.mpr ⟨c, hc, by rw [hf]; rfl⟩, Bool.or_true]

/-- … and when every drop-in loads, no failure is reported -/
theorem C13_dropins_all_load (t : Tree) (cs : List (Str × Str)) (q : QUnit) (h : ∀ c ∈ cs, confLoads t c = true) :
    (cs.foldl (mergeStep t) (q, false)).2 = false := by
  rw [merge_failed, Bool.false_or, List.any_eq_false]
  intro c hc; rw [h c hc]; decide

/-- a concrete tree: the same name in two search directories, a second name only in the later -/
example :
    let t : Tree := { searchDirs := [s "/s1", s "/s2"],
                      files := [(s "/s1/a.container", []), (s "/s1/a.container.d/10.conf", []), (s "/s2/a.container.d/10.conf", []),
                                (s "/s2/a.container.d/05.conf", [])] }
    sortConfs (collectConfs t (dropinDirs [s "/s1", s "/s2"] (s "a.container")))
      = [(s "05.conf", s "/s2/a.container.d/05.conf"), (s "10.conf", s "/s1/a.container.d/10.conf")] := by decide +kernel

end Cv
