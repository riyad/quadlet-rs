import QM.Port
/-! # C20 — ExposeHostPort accepts exactly port[-port][/tcp|/udp]

`Port.isPortRange` is the model of `is_port_range` (convert.rs), tied to the code by the
exhaustive `port_range` correspondence; `Port.Spec` is the anchored regular expression
`^\d+(-\d+)?(/tcp|/udp)?$` quoted in the function's comment, as a grammar predicate. -/
namespace Port

theorem C20_recogniser (s : Str) : isPortRange s = true ↔ Spec s := by
  unfold isPortRange Spec
  rw [Bool.and_eq_true, p1_iff]
  constructor
  · rintro ⟨_, ds, r, p, rfl, h1, h2, h3, h4⟩
    exact ⟨ds, r, p, rfl, ⟨by intro e; subst e; simp at h2, h1⟩, h3, h4⟩
  · rintro ⟨ds, r, p, rfl, ⟨h1, h1'⟩, h3, h4⟩
    obtain ⟨c, ds, rfl⟩ := List.exists_cons_of_ne_nil h1
    exact ⟨rfl, c :: ds, r, p, rfl, h1', Nat.succ_pos _, h3, h4⟩

theorem C20_rejects (s : Str) : isPortRange s = false ↔ ¬ Spec s := by
  rw [← C20_recogniser]; cases isPortRange s <;> simp

/-- the defect D7 (`/tcp`, `-5` were accepted) is excluded: a leading separator is never accepted -/
theorem C20_no_leading_separator (s : Str) : ¬ Spec ('/' :: s) ∧ ¬ Spec ('-' :: s) := by
  constructor <;> rw [← C20_recogniser] <;> simp [isPortRange, p1, slash_not_digit, dash_not_digit]

-- non-vacuity and sanity: tests of the statement
example : Spec "80".toList := (C20_recogniser _).mp (by decide +kernel)
example : Spec "8080-8090/udp".toList := (C20_recogniser _).mp (by decide +kernel)
example : ¬ Spec "/tcp".toList := (C20_rejects _).mp (by decide +kernel)
example : ¬ Spec "1-/udp".toList := (C20_rejects _).mp (by decide +kernel)
example : ¬ Spec "80/sctp".toList := (C20_rejects _).mp (by decide +kernel)
example : ¬ Spec "80/tcp ".toList := (C20_rejects _).mp (by decide +kernel)

end Port
