import QM.Parser
/-! # C19 — --dry-run writes nothing and prints exactly what a real run would write

The text part: `--dry-run` prints `to_string()`, a real run writes with `write_to()`; they are two
separately written serialisers (unit.rs).  `Parse.printUnit` models the first, `Parse.writeChunks`
the sequence of `writeln!` calls of the second.  The process-level part (no file-system mutation,
same errors, same exit status) is proved over the run model in QM/Props/C19Run.lean and checked on real runs of the binary (see
DESIGN.md, C19). -/
namespace Parse

/-- the two serialisers produce the same text for every unit -/
theorem C19_serialisers (u : Unit) : (writeChunks u).flatten = printUnit u := by
  rw [← List.flatMap_id, writeChunks, List.flatMap_assoc, printUnit]
  congr 1
  funext ⟨sec, es⟩
  simp [List.flatMap_def]

end Parse
