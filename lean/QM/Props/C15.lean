import QM.LookupLemmas
import QM.MMapLemmas
import QM.ConformModel
/-! # C15 — repeated assignments: last wins, lists accumulate, empty assignment resets

`Cv.assignments u sec key` is the *history* of raw values assigned to `key` in `sec`, in order; the
lookups of unit.rs are modelled in `QM/Lookup.lean` on the ordered-multimap model `MM.SUnit`
(tied to `SystemdUnit` by the `unit` script correspondence). -/
namespace Cv
open MM

/-- merging one more file (a repeated section, a drop-in) appends its assignments to the history -/
theorem C15_history_merge (u o : SUnit) (hnd : (o.map Prod.fst).Nodup) (sec key : Str) :
    assignments (mergeFrom u o) sec key = assignments u sec key ++ assignments o sec key := by
  unfold assignments; rw [entriesOf_mergeFrom u o hnd, List.filterMap_append]

/-- … for any number of files merged after the main file, in merge order -/
theorem C15_history (u : SUnit) (files : List SUnit) (hnd : ∀ f ∈ files, (f.map Prod.fst).Nodup) (sec key : Str) :
    assignments (files.foldl mergeFrom u) sec key = assignments u sec key ++ files.flatMap (assignments · sec key) :=
  foldl_appends (assignments · sec key) mergeFrom _ files (fun u f hf => C15_history_merge u f (hnd f hf) sec key) u

/-- list keys: the effective list is exactly what was assigned after the last empty assignment -/
theorem C15_list (u : SUnit) (sec key : Str) (pre suf : List Str)
    (hsplit : assignments u sec key = pre ++ suf) (hsuf : ∀ v ∈ suf, v.isEmpty = false)
    (hpre : pre = [] ∨ ∃ p, pre = p ++ [[]]) : lookupAllValues u sec key = suf := by
  rw [lookupAllValues, hsplit, fold_reset_spec pre suf hsuf hpre]

/-- every history splits that way, so `C15_list` always applies -/
theorem C15_list_total (h : List Str) : ∃ pre suf, h = pre ++ suf ∧ (∀ v ∈ suf, v.isEmpty = false) ∧
    (pre = [] ∨ ∃ p, pre = p ++ [[]]) := history_split h

/-- single-valued keys: the last assignment wins -/
theorem C15_last (u : SUnit) (sec key : Str) :
    lookupLastValue u sec key = (assignments u sec key).getLast? ∧
    lookup u sec key = ((assignments u sec key).getLast?).map unq := ⟨rfl, rfl⟩

/-- boolean keys: an empty last assignment means "unset" (D14) -/
theorem C15_bool_reset (u : SUnit) (sec key : Str) (h : (assignments u sec key).getLast? = some []) :
    lookupBool u sec key = none := by
  simp [lookupBool, lookupLastValue, h, trim]

/-- the step of the fold in `lookupAllKeyVal` -/
def kvStep (acc : List (Str × Str)) (kv : Str × Str) : List (Str × Str) :=
  if acc.any (·.1 == kv.1) then acc.map (fun p => if p.1 == kv.1 then kv else p) else acc ++ [kv]

theorem any_key_eq (acc : List (Str × Str)) (k : Str) : acc.any (·.1 == k) = (acc.lookup k).isSome := by
  rw [Bool.eq_iff_iff, List.lookup_isSome_iff, List.any_eq_true]
  simp only [BEq.comm (a := k)]

theorem kvStep_lookup (acc : List (Str × Str)) (kv : Str × Str) (n : Str) :
    (kvStep acc kv).lookup n = if n = kv.1 then some kv.2 else acc.lookup n := by
  obtain ⟨k, v⟩ := kv
  simp only [kvStep, any_key_eq]
  cases hk : acc.lookup k with
  | none =>
    rw [Option.isSome_none, if_neg Bool.false_ne_true, List.lookup_append, lookup_cons_if, List.lookup_nil]
    split
    · subst n; rw [hk]; rfl
    · exact Option.or_none
  | some x =>
    have hf : (fun p : Str × Str => if p.1 == k then (k, v) else p) = fun p => (p.1, (fun a x => if a = k then v else x) p.1 p.2) := by
      funext p; by_cases h : p.1 = k <;> simp [h]
    rw [Option.isSome_some, if_pos rfl, hf, lookup_map_val (fun a x => if a = k then v else x)]
    split
    · subst n; rw [hk]; simp
    · simp [*]

theorem C15_keyval_fold (pairs : List (Str × Str)) (acc : List (Str × Str)) (n : Str) :
    (pairs.foldl kvStep acc).lookup n = ((pairs.filter (·.1 == n)).getLast?.map (·.2)).or (acc.lookup n) := by
  induction pairs generalizing acc with
  | nil => rfl
  | cons kv pairs ih =>
    rw [List.foldl_cons, ih, kvStep_lookup, List.filter_cons]
    by_cases h : kv.1 = n
    · subst h
      rw [if_pos rfl, if_pos (beq_self_eq_true _), List.getLast?_cons]
      cases (pairs.filter (·.1 == kv.1)).getLast? <;> rfl
    · rw [if_neg (fun e => h e.symm), if_neg (by simpa using h)]

/-- name=value keys: each name carries the value of its *last* assignment (after the reset fold) -/
theorem C15_keyval (u : SUnit) (sec key n : Str) :
    (lookupAllKeyVal u sec key).lookup n =
      (((lookupAllValues u sec key).flatMap fun raw => (splitArgs raw).filterMap (splitOnce '=')).filter (·.1 == n)).getLast?.map (·.2) := by
  rw [← Option.or_none (o := Option.map _ _)]
  exact C15_keyval_fold _ [] n

example : lookupAllValues [(s "S", [(s "K", s "a"), (s "K", []), (s "K", s "b"), (s "X", s "y"), (s "K", s "c")])] (s "S") (s "K")
    = [s "b", s "c"] := by decide

end Cv
