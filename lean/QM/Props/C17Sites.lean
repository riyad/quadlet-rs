import QM.Props.C17
import QM.ConvArgs
/-! # C17, call sites — where the converters resolve paths (over the converter models) -/
namespace Cv
open MM

/-- call site: a `Volume=` / `Mount=` source that starts with '.' is resolved against the unit file's directory; the
    resolved path is what the command carries and what `RequiresMountsFor=` names -/
theorem C17_storage_source_call_site (E : Env) (p : Str) (svc : SUnit) (source : Str) (ci : Bool)
    (hdot : source.head? = some '.') (habs : (absFromUnit p source).head? = some '/') :
    handleStorageSource E p svc source ci
      = .ok (absFromUnit p source, addS svc "Unit" "RequiresMountsFor" (absFromUnit p source)) := by
  unfold handleStorageSource
  simp [hdot, habs]

/-- … a source that starts with neither '.' nor '/' and names no .volume (.image) unit — a volume name, a specifier path — is
    left as it is written, and nothing is added to the service -/
theorem C17_storage_source_other (E : Env) (p : Str) (svc : SUnit) (source : Str) (ci : Bool)
    (hdot : source.head? ≠ some '.') (hrel : source.head? ≠ some '/')
    (hu : (endsWith source (s ".volume") || (ci && endsWith source (s ".image"))) = false) :
    handleStorageSource E p svc source ci = .ok (source, svc) := by
  unfold handleStorageSource
  simp [hdot, hrel, hu]

/-- call site: the Yaml= path of a .kube unit reaches `podman kube play` resolved against the unit's directory (last argument) -/
theorem C17_yaml_call_site (E : Env) (path : Str) (u svc : SUnit) (h : fromKube E path u = .ok svc) :
    ∃ cmd, HasExec svc "ExecStart" cmd ∧ cmd.getLast? = some (absFromUnit path ((lookup u (s "Kube") (s "Yaml")).getD [])) := by
  obtain ⟨maps, nets, hx⟩ := C02_kube_shape E path u svc h
  exact ⟨_, hx, List.getLast?_concat⟩

/-- `absFromUnit` is `absolute_from` against the directory of the unit's path -/
theorem C17_absFromUnit_eq (p x : Str) : absFromUnit p x = Pth.absoluteFromUnit [] p x := rfl

/-- specifier paths (D23): every path the converters resolve with `absFromUnit` (Yaml=, ConfigMap=, EnvironmentFile=, the file a working
    directory is derived from) comes back as it was written when it starts with a specifier, whatever the unit's own path is -/
theorem C17_absFromUnit_specifier (p x : Str) (hs : Pth.startsWithSpecifier x = true) : absFromUnit p x = x := by
  rw [C17_absFromUnit_eq]; unfold Pth.absoluteFromUnit; exact Pth.C17_specifier_kept _ _ _ hs

/-- call site: a `Yaml=` that starts with a specifier is the last argument exactly as it was written -/
theorem C17_yaml_specifier_kept (E : Env) (path : Str) (u svc : SUnit) (h : fromKube E path u = .ok svc)
    (hs : Pth.startsWithSpecifier ((lookup u (s "Kube") (s "Yaml")).getD []) = true) :
    ∃ cmd, HasExec svc "ExecStart" cmd ∧ cmd.getLast? = some ((lookup u (s "Kube") (s "Yaml")).getD []) := by
  obtain ⟨cmd, hx, hl⟩ := C17_yaml_call_site E path u svc h
  exact ⟨cmd, hx, by rw [hl, C17_absFromUnit_specifier _ _ hs]⟩

example : absFromUnit (s "/q/u.kube") (s "%h/../x") = s "%h/../x" := by decide

/-! ### a path or a URL (D21) -/

/-- what counts as a URL begins with one of four prefixes — nothing that merely begins with "http" or holds "github.com/" somewhere -/
theorem C17_url_prefix (x : Str) (h : isUrl x = true) :
    (s "http://").isPrefixOf x = true ∨ (s "https://").isPrefixOf x = true ∨ (s "git://").isPrefixOf x = true ∨ (s "github.com/").isPrefixOf x = true := by
  unfold isUrl startsWith at h
  simp only [List.any_cons, List.any_nil, Bool.or_false, Bool.or_eq_true, Bool.and_eq_true] at h
  exact h.imp And.left <| .imp And.left <| .imp And.left And.left

example : isUrl (s "httpd/ctx") = false ∧ isUrl (s "https-proxy/Containerfile") = false ∧ isUrl (s "src/https://h/x") = false ∧
    isUrl (s "vendor/github.com/u/r") = false ∧ isUrl (s "https://h/x") = true ∧ isUrl (s "github.com/u/r") = true := by decide +kernel

/-- call site: a custom, relative `SetWorkingDirectory=` of a .build that is not a URL is always anchored — when the plan succeeds it
    keeps the value as the build context *and* sets a working directory (which `swdPlan` computes from the unit's path alone), unless
    the user chose a `[Service] WorkingDirectory=` of their own -/
theorem C17_build_custom_anchored (unitPath : Str) (u : SUnit) (swd : Str)
    (hl : lookup u (s "Build") (s "SetWorkingDirectory") = some swd) (hne : swd ≠ []) (hp : unitPath ≠ [])
    (h1 : (lower swd == s "yaml") = false) (h2 : (lower swd == s "file") = false) (h3 : (lower swd == s "unit") = false)
    (habs : isAbs swd = false) (hurl : isUrl swd = false)
    (hwd : lookup u (s "Service") (s "WorkingDirectory") = none) (r : Str × Option Str)
    (h : swdPlan unitPath u (s "Build") = .ok r) : r.1 = swd ∧ r.2.isSome = true := by
  have ht : swdTarget unitPath u (s "Build") swd = .ok (swd, unitPath) := by
    unfold swdTarget
    simp [h1, h2, h3, habs]
  unfold swdPlan at h
  simp only [hl, Option.getD_some, List.isEmpty_eq_false_iff.mpr hne, ht, List.isEmpty_eq_false_iff.mpr hp, Bool.not_false, hurl,
    Bool.and_self, if_true, hwd, Option.map_none, Option.getD_none, Bool.false_eq_true, if_false] at h
  -- what is left of `swdPlan`: the parent of the unit's resolved path.  The outer split is on `splitLast '/'` of that path, the inner
  -- ones on the tests for "no parent"; each leaf is an error or `.ok (swd, some _)`
  split at h
  · split at h
    · cases h
    · cases h; exact ⟨rfl, rfl⟩
  · split at h
    · cases h
    · cases h; exact ⟨rfl, rfl⟩

end Cv
