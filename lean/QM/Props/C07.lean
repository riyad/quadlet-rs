import QM.ConvKept
/-! # C07 — user sections pass through unchanged; the Quadlet section is kept as X-<name>

Statements are about the ordered-multimap model of the unit (`MM.entriesOf svc S` = the entries of section `S`
in order).  Every converter starts from `startService path u` (= `merge_from(unit)`, default dependencies
*prepended* to [Unit], SourcePath added; .build adds its mount dependency before SourcePath: `buildStart`) and then
renames its own section and [Quadlet]. -/
namespace Cv
open MM

/-- what every converter but .build starts from (`startService`): all sections of the unit other than [Unit] are copied verbatim,
    in order -/
theorem C07_start_passthrough (path : Str) (u : SUnit) (hnd : (u.map Prod.fst).Nodup) (S : Str) (h : S ≠ s "Unit") :
    entriesOf (startService path u) S = entriesOf u S := by
  rw [← entriesOf_merged u hnd S]
  simp only [startService, defaultDeps, apply_ite (entriesOf · S), entriesOf_addS, entriesOf_prependS, if_neg h, ite_self]

/-- the generator's default dependencies come before the user's [Unit] entries, so the user's assignments
    (including an empty one that resets a list) keep the last word -/
theorem C07_unit_defaults_first (svc : SUnit) :
    ∃ d, entriesOf (defaultDeps svc) (s "Unit") = d ++ entriesOf svc (s "Unit") ∧
      (d = [] ∨ d = [(s "Wants", P.quoteValue (s "network-online.target")), (s "After", P.quoteValue (s "network-online.target"))]) := by
  unfold defaultDeps
  split
  · refine ⟨_, ?_, Or.inr rfl⟩
    rw [entriesOf_prependS, if_pos rfl, entriesOf_prependS, if_pos rfl]; rfl
  · exact ⟨[], rfl, Or.inl rfl⟩

/-- the one-shot service settings (SyslogIdentifier, Type, RemainAfterExit): values the user wrote are not overwritten; stated for a
    service in which all three are set, which `oneShot` leaves as it is -/
theorem C07_oneshot_keeps_user_choice (svc : SUnit) (remain : Bool)
    (h1 : (lookup svc (s "Service") (s "SyslogIdentifier")).isSome)
    (h2 : (lookup svc (s "Service") (s "Type")).isSome)
    (h3 : (lookup svc (s "Service") (s "RemainAfterExit")).isSome) :
    oneShot svc remain = svc := by
  unfold oneShot
  simp only [Option.isNone_eq_false_iff.mpr h1, Option.isNone_eq_false_iff.mpr h2, Option.isNone_eq_false_iff.mpr h3, Bool.and_false,
    Bool.false_eq_true, if_false]

/-- KillMode (D6): a user's `mixed` or `control-group` is kept as written -/
theorem C07_killmode_kept (u svc : SUnit) (v : Str) (h : lookup u (s "Service") (s "KillMode") = some v)
    (hv : v = s "mixed" ∨ v = s "control-group") : killMode u svc = .ok svc := by
  unfold killMode
  rcases hv with rfl | rfl <;> simp [h]

/-- .image: every section the converter does not own is copied verbatim, in order -/
theorem C07_image_passthrough (E : Env) (path : Str) (u svc : SUnit) (r : Str) (hnd : (u.map Prod.fst).Nodup)
    (h : fromImage E path u = .ok (svc, r)) (S : Str)
    (hS : S ≠ s "Image" ∧ S ≠ s "Quadlet" ∧ S ≠ s "X-Image" ∧ S ≠ s "X-Quadlet" ∧ S ≠ s "Unit" ∧ S ≠ s "Service") :
    entriesOf svc S = entriesOf u S :=
  ((converts_fromImage h).sections hnd).1 S (by simp [hS])

/-- .image: the Image section is kept verbatim under X-Image (after whatever the user already had in a section of
    that name), [Quadlet] under X-Quadlet, and no section named Image or Quadlet remains -/
theorem C07_image_xsection (E : Env) (path : Str) (u svc : SUnit) (r : Str) (hnd : (u.map Prod.fst).Nodup)
    (h : fromImage E path u = .ok (svc, r)) :
    entriesOf svc (s "X-Image") = entriesOf u (s "X-Image") ++ entriesOf u (s "Image") ∧
    entriesOf svc (s "X-Quadlet") = entriesOf u (s "X-Quadlet") ++ entriesOf u (s "Quadlet") ∧
    entriesOf svc (s "Image") = [] ∧ entriesOf svc (s "Quadlet") = [] :=
  ((converts_fromImage h).sections hnd).2

theorem C07_volume_sections (E : Env) (path : Str) (u svc : SUnit) (n : Str) (hnd : (u.map Prod.fst).Nodup)
    (h : fromVolume E path u = .ok (svc, n)) : SectionsKept u svc (s "Volume") (s "X-Volume") :=
  (converts_fromVolume h).sections hnd

theorem C07_network_sections (E : Env) (path : Str) (u svc : SUnit) (n : Str) (hnd : (u.map Prod.fst).Nodup)
    (h : fromNetwork E path u = .ok (svc, n)) : SectionsKept u svc (s "Network") (s "X-Network") :=
  (converts_fromNetwork h).sections hnd

theorem C07_pod_sections (E : Env) (path : Str) (u svc : SUnit) (cs : List Str) (hnd : (u.map Prod.fst).Nodup)
    (h : fromPod E path u cs = .ok svc) : SectionsKept u svc (s "Pod") (s "X-Pod") :=
  (converts_fromPod h).sections hnd

theorem C07_kube_sections (E : Env) (path : Str) (u svc : SUnit) (hnd : (u.map Prod.fst).Nodup)
    (h : fromKube E path u = .ok svc) : SectionsKept u svc (s "Kube") (s "X-Kube") :=
  (converts_fromKube h).sections hnd

theorem C07_build_sections (E : Env) (path : Str) (u svc : SUnit) (hnd : (u.map Prod.fst).Nodup)
    (h : fromBuild E path u = .ok svc) : SectionsKept u svc (s "Build") (s "X-Build") :=
  (converts_fromBuild h).sections hnd

theorem C07_container_sections (E : Env) (path : Str) (u svc : SUnit) (link : Option (Str × Str)) (hnd : (u.map Prod.fst).Nodup)
    (h : fromContainer E path u = some (.ok (svc, link))) : SectionsKept u svc (s "Container") (s "X-Container") :=
  (converts_fromContainer h).sections hnd


/-! ### inside [Unit] and [Service]: keys the generator does not manage

`Cv.managed` (QM/ConvBuilt.lean) lists the (section, key) pairs some converter writes.  For every other pair — every
other key of [Unit], [Service] and of any foreign section — the service has **exactly** the user's entries of that key,
with their exact raw values and in their order, for every unit and every successful conversion by any of the
converter models (`Converts.unmanaged`: each of the generator's writes goes to a managed pair). -/

theorem C07_volume_keys (E : Env) (path : Str) (u svc : SUnit) (n : Str) (hnd : (u.map Prod.fst).Nodup)
    (h : fromVolume E path u = .ok (svc, n)) : UnmanagedKept u svc (s "Volume") (s "X-Volume") :=
  (converts_fromVolume h).unmanaged hnd
theorem C07_network_keys (E : Env) (path : Str) (u svc : SUnit) (n : Str) (hnd : (u.map Prod.fst).Nodup)
    (h : fromNetwork E path u = .ok (svc, n)) : UnmanagedKept u svc (s "Network") (s "X-Network") :=
  (converts_fromNetwork h).unmanaged hnd
theorem C07_pod_keys (E : Env) (path : Str) (u svc : SUnit) (cs : List Str) (hnd : (u.map Prod.fst).Nodup)
    (h : fromPod E path u cs = .ok svc) : UnmanagedKept u svc (s "Pod") (s "X-Pod") :=
  (converts_fromPod h).unmanaged hnd
theorem C07_kube_keys (E : Env) (path : Str) (u svc : SUnit) (hnd : (u.map Prod.fst).Nodup)
    (h : fromKube E path u = .ok svc) : UnmanagedKept u svc (s "Kube") (s "X-Kube") :=
  (converts_fromKube h).unmanaged hnd
theorem C07_build_keys (E : Env) (path : Str) (u svc : SUnit) (hnd : (u.map Prod.fst).Nodup)
    (h : fromBuild E path u = .ok svc) : UnmanagedKept u svc (s "Build") (s "X-Build") :=
  (converts_fromBuild h).unmanaged hnd
theorem C07_container_keys (E : Env) (path : Str) (u svc : SUnit) (link : Option (Str × Str)) (hnd : (u.map Prod.fst).Nodup)
    (h : fromContainer E path u = some (.ok (svc, link))) : UnmanagedKept u svc (s "Container") (s "X-Container") :=
  (converts_fromContainer h).unmanaged hnd

theorem C07_image_keys (E : Env) (path : Str) (u svc : SUnit) (r : Str) (hnd : (u.map Prod.fst).Nodup)
    (h : fromImage E path u = .ok (svc, r)) : UnmanagedKept u svc (s "Image") (s "X-Image") :=
  (converts_fromImage h).unmanaged hnd

/-- T1: the managed pairs are exactly the (section, key) pairs that convert.rs writes with `add` / `set` / `prepend` /
    `add_raw` (extracted from the source on every run; a write with a non-literal key makes the extraction fail) -/
theorem C07_managed_conforms : (∀ p ∈ Gen.writtenPairs, p ∈ managed) ∧ (∀ p ∈ managed, p ∈ Gen.writtenPairs) := by decide +kernel

/-- non-vacuity: keys users commonly set are not managed -/
example : (s "Service", s "TimeoutStartSec") ∉ managed ∧ (s "Unit", s "Description") ∉ managed ∧ (s "Unit", s "Documentation") ∉ managed
    ∧ (s "Service", s "ExecReload") ∉ managed ∧ (s "Install", s "WantedBy") ∉ managed := by
  simp only [managed, List.mem_cons, List.not_mem_nil, Prod.mk.injEq, s_inj, String.reduceEq, and_false, or_self, not_false_eq_true,
    and_self]


/-! ### managed keys: the user's entries are kept, the generator only adds

Apart from the five settings written with `set` (`Cv.setPairs`: KillMode, Type, NotifyAccess, SyslogIdentifier,
RemainAfterExit — there the generator replaces the *last* value, see `C07_oneshot_keeps_user_choice`,
`C07_killmode_kept`), the entries of every key only grow, in every section but the converter's own one, its X- copy, [Quadlet]
and [X-Quadlet] (for these four: `C07_<type>_sections`): the user's entries of a key are a sublist — same raw values, same
order — of the service's entries of that key (`After=`, `Requires=`, `Environment=`, `ExecStartPre=`, `ExecStart=`,
`WorkingDirectory=` … included). -/

theorem C07_volume_grows (E : Env) (path : Str) (u svc : SUnit) (n : Str) (hnd : (u.map Prod.fst).Nodup)
    (h : fromVolume E path u = .ok (svc, n)) : UserEntriesKept u svc (s "Volume") (s "X-Volume") :=
  (converts_fromVolume h).grows hnd
theorem C07_network_grows (E : Env) (path : Str) (u svc : SUnit) (n : Str) (hnd : (u.map Prod.fst).Nodup)
    (h : fromNetwork E path u = .ok (svc, n)) : UserEntriesKept u svc (s "Network") (s "X-Network") :=
  (converts_fromNetwork h).grows hnd
theorem C07_pod_grows (E : Env) (path : Str) (u svc : SUnit) (cs : List Str) (hnd : (u.map Prod.fst).Nodup)
    (h : fromPod E path u cs = .ok svc) : UserEntriesKept u svc (s "Pod") (s "X-Pod") :=
  (converts_fromPod h).grows hnd
theorem C07_kube_grows (E : Env) (path : Str) (u svc : SUnit) (hnd : (u.map Prod.fst).Nodup)
    (h : fromKube E path u = .ok svc) : UserEntriesKept u svc (s "Kube") (s "X-Kube") :=
  (converts_fromKube h).grows hnd
theorem C07_build_grows (E : Env) (path : Str) (u svc : SUnit) (hnd : (u.map Prod.fst).Nodup)
    (h : fromBuild E path u = .ok svc) : UserEntriesKept u svc (s "Build") (s "X-Build") :=
  (converts_fromBuild h).grows hnd
theorem C07_container_grows (E : Env) (path : Str) (u svc : SUnit) (link : Option (Str × Str)) (hnd : (u.map Prod.fst).Nodup)
    (h : fromContainer E path u = some (.ok (svc, link))) : UserEntriesKept u svc (s "Container") (s "X-Container") :=
  (converts_fromContainer h).grows hnd

/-- the settings written with `set` are among the managed pairs (T1-conformant list) -/
example : ∀ p ∈ setPairs, p ∈ managed := written_managed.2.1

end Cv
