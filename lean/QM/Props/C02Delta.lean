import QM.ConvArgs
import QM.Props.C02
/-! # C02 — "adding the key changes nothing else in the command"

For six converter models (all but `.build`) the whole command is the concatenation of the blocks of its segments
(`<type>Cmd_segs`), each segment reads the history of its own key(s) only (`<type>Segs_local`), and no two segments read the same key
(`<type>Keys_nodup`, over the tables regenerated from the source).  Hence for any two units that differ only in what they assign to
one key `k` — the key added, assigned again, reset, or set in a drop-in — the two commands are identical before and after the block
of the one segment that reads `k` (`C02_<type>_delta`), and identical altogether when no segment reads `k` (`C02_image_unread`,
`C02_network_unread`). -/
namespace Cv
open MM

/-! The facts about the keys of a converter are decided on numbers.  The kernel compares `Nat` literals natively; two `List Char` it
    compares through the `Decidable` instances of five types, and a table of a hundred keys asks for some twenty thousand comparisons. -/

/-- a key as a number, its characters the digits -/
def keyCode : Str → Nat
  | [] => 0
  | c :: l => keyCode l * 4294967297 + (c.toNat + 1)

theorem keyCode_inj : ∀ {a b : Str}, keyCode a = keyCode b → a = b
  | [], [], _ => rfl
  | [], _ :: _, h => by simp only [keyCode] at h; omega
  | _ :: _, [], h => by simp only [keyCode] at h; omega
  | c :: l, d :: m, h => by
    have hc := c.val.toNat_lt
    have hd := d.val.toNat_lt
    simp only [keyCode, Char.toNat] at h
    obtain ⟨hl, hv⟩ : keyCode l = keyCode m ∧ c.val.toNat = d.val.toNat := by omega
    rw [keyCode_inj hl, Char.toNat_inj.mp hv]

theorem nodup_of_codes {l : List Str} (h : (l.map keyCode).Nodup) : l.Nodup :=
  .of_map keyCode (fun _ _ hn e => hn (congrArg keyCode e)) h

theorem subset_of_codes {A B : List Str} (h : ∀ c ∈ A.map keyCode, c ∈ B.map keyCode) : ∀ k ∈ A, k ∈ B := fun _ hk =>
  let ⟨_, hm, e⟩ := List.mem_map.mp (h _ (List.mem_map_of_mem hk))
  keyCode_inj e ▸ hm

/-- the keys read (`R`) are distinct and supported (`S`), and every supported key but those in `X` is read.  The three facts are evaluated
    together: a good part of the work is the kernel decoding the string literals in `R`, and within one evaluation it decodes each once -/
theorem keys_of_codes {R S X : List Str}
    (h : (R.map keyCode).Nodup ∧ (∀ c ∈ R.map keyCode, c ∈ S.map keyCode) ∧ ∀ c ∈ S.map keyCode, c ∈ (R ++ X).map keyCode) :
    R.Nodup ∧ (∀ k ∈ R, k ∈ S) ∧ ∀ k ∈ S, k ∈ R ++ X :=
  ⟨nodup_of_codes h.1, subset_of_codes h.2.1, subset_of_codes h.2.2⟩

def imageKeysRead : List Str :=
  Gen.tbl_get_base_podman_command_inline_lookup_and_add_all_strings.map Prod.fst ++ [s "GlobalArgs"]
    ++ Gen.tbl_from_image_unit_string_keys.map Prod.fst ++ Gen.tbl_from_image_unit_bool_keys.map Prod.fst ++ [s "PodmanArgs", s "Image"]

theorem imageSegs_reads (E : Env) : (imageSegs E).flatMap (·.reads) = imageKeysRead := by
  unfold imageSegs imageKeysRead
  simp only [List.flatMap_append, reads_rows (segAll (s "Image")) (fun _ => rfl), reads_rows (segString (s "Image")) (fun _ => rfl),
    reads_rows (segBool (s "Image")) (fun _ => rfl)]
  simp [segConst, segArgs, segLast]

theorem imageKeys_table : imageKeysRead.Nodup ∧ (∀ k ∈ imageKeysRead, k ∈ Gen.SUPPORTED_IMAGE_KEYS) ∧
    ∀ k ∈ Gen.SUPPORTED_IMAGE_KEYS, k ∈ imageKeysRead ++ [s "ServiceName", s "ImageTag"] := keys_of_codes (by decide +kernel)

theorem imageKeys_nodup : imageKeysRead.Nodup := imageKeys_table.1

theorem imageKeys_documented : ∀ k ∈ imageKeysRead, k ∈ Gen.SUPPORTED_IMAGE_KEYS := imageKeys_table.2.1

/-- every documented key of [Image] has its block in the command, except the two that only name things -/
theorem imageKeys_complete : ∀ k ∈ Gen.SUPPORTED_IMAGE_KEYS, k ∈ imageKeysRead ∨ k = s "ServiceName" ∨ k = s "ImageTag" := fun k hk => by
  simpa only [List.mem_append, List.mem_cons, List.not_mem_nil, or_false] using imageKeys_table.2.2 k hk

/-- **adding (changing, resetting) a key changes nothing else**: the commands generated for two units that agree on every key but
    `k` coincide argument for argument before and after the block of the single segment reading `k` -/
theorem C02_image_delta (E : Env) (k : Str) (hk : k ∈ imageKeysRead) (u u' : SUnit) (h : AgreeExcept (s "Image") k u u') :
    ∃ A g B, imageSegs E = A ++ g :: B ∧ k ∈ g.reads ∧
      imageCmd E u = cmdOf A u ++ g.emit u ++ cmdOf B u ∧ imageCmd E u' = cmdOf A u ++ g.emit u' ++ cmdOf B u := by
  simp only [imageCmd_segs]
  -- stated of `imageCmd` itself, not of a service's Exec line: `P`, `Q` are "is equal to the command", so the split forms come out
  -- as equations
  exact delta_of_segs (s "Image") (imageSegs E) (imageSegs_local E) (imageSegs_reads E) imageKeys_nodup k hk u u' h
    (P := (cmdOf (imageSegs E) u = ·)) (Q := (cmdOf (imageSegs E) u' = ·)) rfl rfl

/-- a key the command does not read (`ImageTag`, `ServiceName`, an unknown key, …) leaves the command as it is -/
theorem C02_image_unread (E : Env) (k : Str) (hk : k ∉ imageKeysRead) (u u' : SUnit) (h : AgreeExcept (s "Image") k u u') :
    imageCmd E u = imageCmd E u' := by
  rw [imageCmd_segs, imageCmd_segs]
  exact unread_of_segs (s "Image") (imageSegs E) (imageSegs_local E) (imageSegs_reads E) k hk u u' h

/-- the instance the property names: the unit with one more assignment of `k` -/
theorem C02_image_add_key (E : Env) (k raw : Str) (hk : k ∈ imageKeysRead) (u : SUnit) :
    ∃ A g B, imageSegs E = A ++ g :: B ∧ k ∈ g.reads ∧
      imageCmd E u = cmdOf A u ++ g.emit u ++ cmdOf B u ∧
      imageCmd E (addEntry u (s "Image") k raw) = cmdOf A u ++ g.emit (addEntry u (s "Image") k raw) ++ cmdOf B u :=
  C02_image_delta E k hk u _ (agreeExcept_addEntry u (s "Image") k raw)


def networkKeysRead : List Str :=
  Gen.tbl_get_base_podman_command_inline_lookup_and_add_all_strings.map Prod.fst ++ [s "GlobalArgs"]
    ++ Gen.tbl_from_network_unit_bool_keys.map Prod.fst ++ Gen.tbl_from_network_unit_string_keys.map Prod.fst
    ++ Gen.tbl_from_network_unit_inline_lookup_and_add_all_strings.map Prod.fst
    ++ [s "Subnet", s "Gateway", s "IPRange", s "Options", s "Label", s "PodmanArgs", s "NetworkName"]

theorem networkSegs_reads (E : Env) (path : Str) : (networkSegs E path).flatMap (·.reads) = networkKeysRead := by
  unfold networkSegs networkKeysRead
  simp only [List.flatMap_append, reads_rows (segAll (s "Network")) (fun _ => rfl), reads_rows (segString (s "Network")) (fun _ => rfl),
    reads_rows (segBool (s "Network")) (fun _ => rfl)]
  simp [segConst, segArgs, segKeyVal, segMulti]

theorem networkKeys_table : networkKeysRead.Nodup ∧ (∀ k ∈ networkKeysRead, k ∈ Gen.SUPPORTED_NETWORK_KEYS) ∧
    ∀ k ∈ Gen.SUPPORTED_NETWORK_KEYS, k ∈ networkKeysRead ++ [s "ServiceName"] := keys_of_codes (by decide +kernel)
theorem networkKeys_nodup : networkKeysRead.Nodup := networkKeys_table.1
theorem networkKeys_documented : ∀ k ∈ networkKeysRead, k ∈ Gen.SUPPORTED_NETWORK_KEYS := networkKeys_table.2.1
theorem networkKeys_complete : ∀ k ∈ Gen.SUPPORTED_NETWORK_KEYS, k ∈ networkKeysRead ∨ k = s "ServiceName" := fun k hk => by
  simpa only [List.mem_append, List.mem_cons, List.not_mem_nil, or_false] using networkKeys_table.2.2 k hk

/-- two `.network` units that convert and differ only in what they assign to one key: the commands systemd will run coincide,
    argument for argument, before and after the block of that key -/
theorem C02_network_delta (E : Env) (path : Str) (k : Str) (hk : k ∈ networkKeysRead) (u u' svc svc' : SUnit) (n n' : Str)
    (h : AgreeExcept (s "Network") k u u')
    (hc : fromNetwork E path u = .ok (svc, n)) (hc' : fromNetwork E path u' = .ok (svc', n')) :
    ∃ A g B, networkSegs E path = A ++ g :: B ∧ k ∈ g.reads ∧
      HasExec svc "ExecStart" (cmdOf A u ++ g.emit u ++ cmdOf B u) ∧ HasExec svc' "ExecStart" (cmdOf A u ++ g.emit u' ++ cmdOf B u) :=
  delta_of_segs (s "Network") (networkSegs E path) (networkSegs_local E path) (networkSegs_reads E path) networkKeys_nodup k hk u u' h
    (fromNetwork_segs E path u svc n hc).1 (fromNetwork_segs E path u' svc' n' hc').1

theorem C02_network_unread (E : Env) (path : Str) (k : Str) (hk : k ∉ networkKeysRead) (u u' svc svc' : SUnit) (n n' : Str)
    (h : AgreeExcept (s "Network") k u u')
    (hc : fromNetwork E path u = .ok (svc, n)) (hc' : fromNetwork E path u' = .ok (svc', n')) :
    ∃ cmd, HasExec svc "ExecStart" cmd ∧ HasExec svc' "ExecStart" cmd :=
  ⟨_, unread_of_segs (s "Network") _ (networkSegs_local E path) (networkSegs_reads E path) k hk u u' h ▸ (fromNetwork_segs E path u svc n hc).1,
    (fromNetwork_segs E path u' svc' n' hc').1⟩

/-- an instance of the hypothesis `AgreeExcept`: a unit with a subnet and its gateway, and the same unit with a label added -/
example : AgreeExcept (s "Network") (s "Label") [(s "Network", [(s "Subnet", s "10.0.0.0/24"), (s "Gateway", s "10.0.0.1")])]
    (addEntry [(s "Network", [(s "Subnet", s "10.0.0.0/24"), (s "Gateway", s "10.0.0.1")])] (s "Network") (s "Label") (s "a=b")) :=
  agreeExcept_addEntry _ _ _ _

def podKeysRead : List Str :=
  Gen.tbl_get_base_podman_command_inline_lookup_and_add_all_strings.map Prod.fst ++ [s "GlobalArgs"] ++ mapKeys
    ++ Gen.tbl_handle_publish_ports_inline_lookup_and_add_all_strings.map Prod.fst ++ [s "Network"]
    ++ Gen.tbl_from_pod_unit_string_keys.map Prod.fst ++ Gen.tbl_from_pod_unit_all_string_keys.map Prod.fst
    ++ [s "Volume", s "PodName", s "PodmanArgs"]

theorem podSegs_reads (E : Env) (path : Str) : (podSegs E path).flatMap (·.reads) = podKeysRead := by
  unfold podSegs podKeysRead
  simp only [List.flatMap_append, reads_rows (segAll (s "Pod")) (fun _ => rfl), reads_rows (segString (s "Pod")) (fun _ => rfl)]
  simp [segConst, segArgs, segMulti, segMaps, segNetworks, segVolumes]

theorem podKeys_table : podKeysRead.Nodup ∧ (∀ k ∈ podKeysRead, k ∈ Gen.SUPPORTED_POD_KEYS) ∧
    ∀ k ∈ Gen.SUPPORTED_POD_KEYS, k ∈ podKeysRead ++ [s "ServiceName"] := keys_of_codes (by decide +kernel)
theorem podKeys_nodup : podKeysRead.Nodup := podKeys_table.1
theorem podKeys_documented : ∀ k ∈ podKeysRead, k ∈ Gen.SUPPORTED_POD_KEYS := podKeys_table.2.1
theorem podKeys_complete : ∀ k ∈ Gen.SUPPORTED_POD_KEYS, k ∈ podKeysRead ∨ k = s "ServiceName" := fun k hk => by
  simpa only [List.mem_append, List.mem_cons, List.not_mem_nil, or_false] using podKeys_table.2.2 k hk

/-- two `.pod` units that convert (against the same name table, with the same members) and differ only in what they assign to one
    key: their `pod create` commands coincide, argument for argument, before and after the block of that key -/
theorem C02_pod_delta (E : Env) (path : Str) (cts : List Str) (k : Str) (hk : k ∈ podKeysRead) (u u' svc svc' : SUnit)
    (h : AgreeExcept (s "Pod") k u u')
    (hc : fromPod E path u cts = .ok svc) (hc' : fromPod E path u' cts = .ok svc') :
    ∃ A g B, podSegs E path = A ++ g :: B ∧ k ∈ g.reads ∧
      HasExec svc "ExecStartPre" (cmdOf A u ++ g.emit u ++ cmdOf B u) ∧ HasExec svc' "ExecStartPre" (cmdOf A u ++ g.emit u' ++ cmdOf B u) :=
  delta_of_segs (s "Pod") (podSegs E path) (podSegs_local E path) (podSegs_reads E path) podKeys_nodup k hk u u' h
    (fromPod_segs E path u svc cts hc) (fromPod_segs E path u' svc' cts hc')


def kubeKeysRead : List Str :=
  Gen.tbl_get_base_podman_command_inline_lookup_and_add_all_strings.map Prod.fst
    ++ [s "GlobalArgs", s "ExitCodePropagation", s "LogDriver", s "LogOpt"] ++ mapKeys ++ [s "Network", s "AutoUpdate", s "ConfigMap"]
    ++ Gen.tbl_handle_publish_ports_inline_lookup_and_add_all_strings.map Prod.fst ++ [s "PodmanArgs", s "Yaml"]

theorem kubeSegs_reads (E : Env) (path : Str) : (kubeSegs E path).flatMap (·.reads) = kubeKeysRead := by
  unfold kubeSegs kubeKeysRead
  simp only [List.flatMap_append, reads_rows (segAll (s "Kube")) (fun _ => rfl)]
  simp [segConst, segArgs, segLast, segStrv, segMaps, segNetworks]

/-- There is no `kubeKeys_documented`: the shared `handle_user_mappings` reads `UIDMap`, `GIDMap`, `SubUIDMap`, `SubGIDMap` in whatever
    section it is given (they are in `mapKeys`), and [Kube] does not accept these four (`Gen.SUPPORTED_KUBE_KEYS`). -/
theorem kubeKeys_table : kubeKeysRead.Nodup ∧ ∀ k ∈ Gen.SUPPORTED_KUBE_KEYS,
    k ∈ kubeKeysRead ++ [s "ServiceName", s "KubeDownForce", s "SetWorkingDirectory"] :=
  have h : (kubeKeysRead.map keyCode).Nodup ∧ ∀ c ∈ Gen.SUPPORTED_KUBE_KEYS.map keyCode,
      c ∈ (kubeKeysRead ++ [s "ServiceName", s "KubeDownForce", s "SetWorkingDirectory"]).map keyCode := by decide +kernel
  ⟨nodup_of_codes h.1, subset_of_codes h.2⟩
theorem kubeKeys_nodup : kubeKeysRead.Nodup := kubeKeys_table.1
/-- every documented key of [Kube] has its block in `kube play`, except the name of the service, the flag of `kube down` and the key that
    only chooses the working directory of the service -/
theorem kubeKeys_complete : ∀ k ∈ Gen.SUPPORTED_KUBE_KEYS,
    k ∈ kubeKeysRead ∨ k = s "ServiceName" ∨ k = s "KubeDownForce" ∨ k = s "SetWorkingDirectory" := fun k hk => by
  simpa only [List.mem_append, List.mem_cons, List.not_mem_nil, or_false] using kubeKeys_table.2 k hk

theorem C02_kube_delta (E : Env) (path : Str) (k : Str) (hk : k ∈ kubeKeysRead) (u u' svc svc' : SUnit)
    (h : AgreeExcept (s "Kube") k u u')
    (hc : fromKube E path u = .ok svc) (hc' : fromKube E path u' = .ok svc') :
    ∃ A g B, kubeSegs E path = A ++ g :: B ∧ k ∈ g.reads ∧
      HasExec svc "ExecStart" (cmdOf A u ++ g.emit u ++ cmdOf B u) ∧ HasExec svc' "ExecStart" (cmdOf A u ++ g.emit u' ++ cmdOf B u) :=
  delta_of_segs (s "Kube") (kubeSegs E path) (kubeSegs_local E path) (kubeSegs_reads E path) kubeKeys_nodup k hk u u' h
    (fromKube_segs E path u svc hc) (fromKube_segs E path u' svc' hc')


def volumeKeysRead : List Str :=
  Gen.tbl_get_base_podman_command_inline_lookup_and_add_all_strings.map Prod.fst ++ [s "GlobalArgs"] ++ volOptKeys
    ++ [s "Label", s "PodmanArgs", s "VolumeName"]

theorem volumeSegs_reads (E : Env) (path : Str) : (volumeSegs E path).flatMap (·.reads) = volumeKeysRead := by
  unfold volumeSegs volumeKeysRead
  simp only [List.flatMap_append, reads_rows (segAll (s "Volume")) (fun _ => rfl)]
  -- every step holds by `rfl`; were they left implicit, the kernel would have to see `[] ++ (volOptKeys ++ l) = volOptKeys ++ l` by
  -- itself, and it first compares the arguments, decoding string literals that differ
  simp -implicitDefEqProofs [segConst, segArgs, segKeyVal, segMulti, segVolOpts]

theorem volumeKeys_table : volumeKeysRead.Nodup ∧ (∀ k ∈ volumeKeysRead, k ∈ Gen.SUPPORTED_VOLUME_KEYS) ∧
    ∀ k ∈ Gen.SUPPORTED_VOLUME_KEYS, k ∈ volumeKeysRead ++ [s "ServiceName"] := keys_of_codes (by decide +kernel)
theorem volumeKeys_nodup : volumeKeysRead.Nodup := volumeKeys_table.1
theorem volumeKeys_documented : ∀ k ∈ volumeKeysRead, k ∈ Gen.SUPPORTED_VOLUME_KEYS := volumeKeys_table.2.1
theorem volumeKeys_complete : ∀ k ∈ Gen.SUPPORTED_VOLUME_KEYS, k ∈ volumeKeysRead ∨ k = s "ServiceName" := fun k hk => by
  simpa only [List.mem_append, List.mem_cons, List.not_mem_nil, or_false] using volumeKeys_table.2.2 k hk

theorem C02_volume_delta (E : Env) (path : Str) (k : Str) (hk : k ∈ volumeKeysRead) (u u' svc svc' : SUnit) (n n' : Str)
    (h : AgreeExcept (s "Volume") k u u')
    (hc : fromVolume E path u = .ok (svc, n)) (hc' : fromVolume E path u' = .ok (svc', n')) :
    ∃ A g B, volumeSegs E path = A ++ g :: B ∧ k ∈ g.reads ∧
      HasExec svc "ExecStart" (cmdOf A u ++ g.emit u ++ cmdOf B u) ∧ HasExec svc' "ExecStart" (cmdOf A u ++ g.emit u' ++ cmdOf B u) :=
  delta_of_segs (s "Volume") (volumeSegs E path) (volumeSegs_local E path) (volumeSegs_reads E path) volumeKeys_nodup k hk u u' h
    (fromVolume_segs E path u svc n hc).1 (fromVolume_segs E path u' svc' n' hc').1


def containerKeysRead : List Str :=
  Gen.tbl_get_base_podman_command_inline_lookup_and_add_all_strings.map Prod.fst
    ++ [s "GlobalArgs", s "ContainerName", s "LogDriver", s "LogOpt", s "CgroupsMode"]
    ++ Gen.tbl_from_container_unit_string_keys.map Prod.fst ++ Gen.tbl_from_container_unit_all_string_keys.map Prod.fst
    ++ Gen.tbl_from_container_unit_bool_keys.map Prod.fst
    ++ [s "Network", s "Notify", s "NoNewPrivileges", s "SecurityLabelDisable", s "SecurityLabelNested", s "SecurityLabelType",
        s "SecurityLabelFileType", s "SecurityLabelLevel", s "AddDevice", s "SeccompProfile", s "DropCapability", s "AddCapability", s "Sysctl",
        s "ReadOnly", s "VolatileTmp", s "User", s "Group"] ++ mapKeys ++ [s "Volume", s "AutoUpdate", s "ExposeHostPort"]
    ++ Gen.tbl_handle_publish_ports_inline_lookup_and_add_all_strings.map Prod.fst
    ++ [s "Environment", s "Label", s "Annotation", s "Mask", s "Unmask", s "EnvironmentFile", s "Secret", s "Mount"]
    ++ Gen.tbl_handle_health_key_arg_map.map Prod.fst ++ [s "Pod", s "PodmanArgs", s "Image", s "Rootfs", s "Exec"]

theorem containerSegs_reads (E : Env) (path : Str) (st : Option Str) : (containerSegs E path st).flatMap (·.reads) = containerKeysRead := by
  unfold containerSegs containerKeysRead
  simp only [List.flatMap_append, reads_rows (segAll (s "Container")) (fun _ => rfl), reads_rows (segString (s "Container")) (fun _ => rfl),
    reads_rows (segBool (s "Container")) (fun _ => rfl), reads_rows (segHealth (s "Container")) (fun _ => rfl)]
  simp -implicitDefEqProofs [segConst, segArgs, segMulti, segLast, segStrv, segArgsWith, segKeyVal, segBoolOn, segMaps, segNetworks,
    segVolumes, segMounts, segPod]

theorem containerKeys_table : containerKeysRead.Nodup ∧ (∀ k ∈ containerKeysRead, k ∈ Gen.SUPPORTED_CONTAINER_KEYS) ∧
    ∀ k ∈ Gen.SUPPORTED_CONTAINER_KEYS, k ∈ containerKeysRead ++ [s "ServiceName", s "StartWithPod"] := keys_of_codes (by decide +kernel)
theorem containerKeys_nodup : containerKeysRead.Nodup := containerKeys_table.1
theorem containerKeys_documented : ∀ k ∈ containerKeysRead, k ∈ Gen.SUPPORTED_CONTAINER_KEYS := containerKeys_table.2.1
/-- every documented key of [Container] has its block in `podman run`, except the name of the service and the flag that only decides
    whether the pod starts the container -/
theorem containerKeys_complete : ∀ k ∈ Gen.SUPPORTED_CONTAINER_KEYS, k ∈ containerKeysRead ∨ k = s "ServiceName" ∨ k = s "StartWithPod" := fun k hk => by
  simpa only [List.mem_append, List.mem_cons, List.not_mem_nil, or_false] using containerKeys_table.2.2 k hk

/-- two `.container` units that convert (against the same name table), have the same `[Service] Type=` and differ only in what they
    assign to one key of [Container]: the `podman run` commands coincide, argument for argument, before and after the block of that key -/
theorem C02_container_delta (E : Env) (path : Str) (k : Str) (hk : k ∈ containerKeysRead) (u u' svc svc' : SUnit)
    (link link' : Option (Str × Str))
    (h : AgreeExcept (s "Container") k u u') (ht : lookup u (s "Service") (s "Type") = lookup u' (s "Service") (s "Type"))
    (hc : fromContainer E path u = some (.ok (svc, link))) (hc' : fromContainer E path u' = some (.ok (svc', link'))) :
    ∃ A g B, containerSegs E path (lookup u (s "Service") (s "Type")) = A ++ g :: B ∧ k ∈ g.reads ∧
      HasExec svc "ExecStart" (cmdOf A u ++ g.emit u ++ cmdOf B u) ∧ HasExec svc' "ExecStart" (cmdOf A u ++ g.emit u' ++ cmdOf B u) :=
  delta_of_segs (s "Container") _ (containerSegs_local E path _) (containerSegs_reads E path _) containerKeys_nodup k hk u u' h
    (fromContainer_segs E path u svc link hc) (ht ▸ fromContainer_segs E path u' svc' link' hc')

end Cv
