import QM.ConvShape
import QM.EmitLemmas
import QM.ConvArgs
import QM.Conform
/-! # C02 — each supported key adds exactly its documented podman option, value intact

The converters (`Cv.from*`, QM/Conv.lean) take their key → option rows from the tables extracted from
convert.rs on every run (`Gen.tbl_*`); `Conform.rows_*` shows each extracted table equal (as a set of rows) to
the frozen documented table `Spec.rows_*`, and `Conform.lookup_kinds` that every key is still read with the
documented kind of lookup (last value / all values / argument words / list words / name=value / boolean).
A table row is an *emitter* that reads only the assignment history of its own key. -/
namespace Cv
open MM

/-- frame: a row's options depend only on the assignments to the row's own key -/
theorem C02_frame_string {u u' : SUnit} {sec : Str} {r : Str × Str} (h : assignments u sec r.1 = assignments u' sec r.1) :
    rowString u sec r = rowString u' sec r := rowString_congr h
theorem C02_frame_all {u u' : SUnit} {sec : Str} {r : Str × Str} (h : assignments u sec r.1 = assignments u' sec r.1) :
    rowAll u sec r = rowAll u' sec r := rowAll_congr h
theorem C02_frame_bool {u u' : SUnit} {sec : Str} {r : Str × Str} (h : assignments u sec r.1 = assignments u' sec r.1) :
    rowBool u sec r = rowBool u' sec r := rowBool_congr h

/-- a single-valued row emits `flag value` with the value's exact (unquoted) text — last assignment wins, an empty
    value emits nothing -/
theorem C02_row_string (u : SUnit) (sec k f : Str) :
    rowString u sec (k, f) = match (assignments u sec k).getLast? with
      | some raw => if (unq raw).isEmpty then [] else [f, unq raw]
      | none => [] := by
  unfold rowString lookup lookupLastValue
  cases (assignments u sec k).getLast? <;> rfl

/-- a multi-valued row emits `flag value` once per effective assignment, in order -/
theorem C02_row_all (u : SUnit) (sec k f : Str) :
    rowAll u sec (k, f) = (lookupAllValues u sec k).flatMap fun raw => [f, unq raw] := by
  unfold rowAll lookupAll; simp [List.flatMap_map]

theorem C02_row_bool (u : SUnit) (sec k f : Str) :
    rowBool u sec (k, f) = match lookupBool u sec k with
      | some true => [f]
      | some false => [f ++ s "=false"]
      | none => [] := rfl

/-- adding a key (to the section the table reads) inserts exactly that row's options at the row's position in the
    table and changes no other row — for the three table kinds -/
theorem C02_add_key_string (u : SUnit) (sec k raw f : Str) (pre post : List (Str × Str))
    (hpre : ∀ r ∈ pre, r.1 ≠ k) (hpost : ∀ r ∈ post, r.1 ≠ k) :
    addString (addEntry u sec k raw) sec (pre ++ (k, f) :: post)
      = addString u sec pre ++ rowString (addEntry u sec k raw) sec (k, f) ++ addString u sec post := by
  simp only [addString_eq]
  exact rows_add_key rowString rowString_congr u sec k raw pre post f hpre hpost
theorem C02_add_key_all (u : SUnit) (sec k raw f : Str) (pre post : List (Str × Str))
    (hpre : ∀ r ∈ pre, r.1 ≠ k) (hpost : ∀ r ∈ post, r.1 ≠ k) :
    addAllStrings (addEntry u sec k raw) sec (pre ++ (k, f) :: post)
      = addAllStrings u sec pre ++ rowAll (addEntry u sec k raw) sec (k, f) ++ addAllStrings u sec post := by
  simp only [addAllStrings_eq]
  exact rows_add_key rowAll rowAll_congr u sec k raw pre post f hpre hpost
theorem C02_add_key_bool (u : SUnit) (sec k raw f : Str) (pre post : List (Str × Str))
    (hpre : ∀ r ∈ pre, r.1 ≠ k) (hpost : ∀ r ∈ post, r.1 ≠ k) :
    addBool (addEntry u sec k raw) sec (pre ++ (k, f) :: post)
      = addBool u sec pre ++ rowBool (addEntry u sec k raw) sec (k, f) ++ addBool u sec post := by
  simp only [addBool_eq]
  exact rows_add_key rowBool rowBool_congr u sec k raw pre post f hpre hpost

/-- a key of another table, or no table key at all, changes nothing in this table's options; stated for the
    single-valued tables (`addString`) only -/
theorem C02_other_key_string (u : SUnit) (sec k raw : Str) (rows : List (Str × Str)) (h : ∀ r ∈ rows, r.1 ≠ k) :
    addString (addEntry u sec k raw) sec rows = addString u sec rows := by
  simp only [addString_eq]
  exact rows_other_key rowString rowString_congr u sec k raw rows h

/-- .image: the whole command, in order — podman, module and global options, the subcommand, the key-derived
    options (table order), PodmanArgs, and the image name last -/
theorem C02_image_shape (E : Env) (path : Str) (u svc : SUnit) (r : Str) (h : fromImage E path u = .ok (svc, r)) :
    svc = imageSvc E path u ∧
    imageCmd E u = [E.podman] ++ moduleArgs u (s "Image") ++ lookupAllArgs u (s "Image") (s "GlobalArgs")
      ++ [s "image", s "pull"]
      ++ addString u (s "Image") Gen.tbl_from_image_unit_string_keys
      ++ addBool u (s "Image") Gen.tbl_from_image_unit_bool_keys
      ++ lookupAllArgs u (s "Image") (s "PodmanArgs") ++ [(lookup u (s "Image") (s "Image")).getD []] :=
  ⟨fromImage_ok E path u svc r h, by simp [imageCmd, baseCmd, podmanArgs]⟩


/-! The whole commands of the other six converters are `Cv.C02_<type>_shape`: when the conversion succeeds, the service
holds an Exec line that is the rendering (`quote_words`) of an explicit argument vector (`HasExec`).  Existentially
quantified in it are what the handlers return (network, volume, mount, pod references, user mappings) and also: for a
container all that stands between the key tables and the published ports, and the image; for a volume all that stands
before the labels; for a build the `--file` arguments and what follows `PodmanArgs`.  (Except for .build, `from<Type>_segs`
gives all of these as functions of the name table, the unit and its path.)
`HasExec.splits` (= C01) says that systemd splits such a line into exactly that vector if no word has a NUL.  That a
documented option then reaches podman as `flag value` with the value's exact text is stated below for one kind of key of
one unit type. -/


/-- end to end for a single-valued table key of a `.network` unit: systemd's splitting of the generated ExecStart line
    contains `flag value` as adjacent arguments -/
theorem C02_string_option_reaches_podman (E : Env) (path : Str) (u svc : SUnit) (n k f v : Str)
    (h : fromNetwork E path u = .ok (svc, n))
    (hr : (k, f) ∈ Gen.tbl_from_network_unit_string_keys) (hv : lookup u (s "Network") k = some v) (hne : v.isEmpty = false) :
    ∃ cmd, HasExec svc "ExecStart" cmd ∧ [f, v] <:+: cmd ∧
      ((∀ w ∈ cmd, ∀ c ∈ w, c ≠ '\x00') → ∃ raw, (s "ExecStart", raw) ∈ entriesOf svc (s "Service") ∧
        P.splitAll P.execFlags raw = some cmd) := by
  have hx := (fromNetwork_segs E path u svc n h).1
  exact ⟨_, hx, segString_infix (by simp only [networkSegs, List.mem_append, List.mem_map_of_mem hr, true_or, or_true]) hv hne,
    fun hw => hx.splits hw⟩

end Cv
