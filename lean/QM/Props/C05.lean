import QM.Equiv
import QM.QuoteLemmas
/-! # C05 — list-valued keys are split into words exactly as systemd splits them

`P.splitArgs` / `P.splitStrv` model `SplitWord` / `SplitStrv` (split.rs, after the D3 repair) iterated
as `lookup_all_args` / `lookup_all_strv` iterate them; separators and the escape table are extracted
from the source on every run.  `P.splitAll f` is the transcription of systemd's
`extract_first_word` with flag set `f`, iterated; `none` is `-EINVAL`.

Boundary (known finding KF-C05-1): `\xHH` / octal escapes with value ≥ 0x80 denote a *byte* for systemd and
the character U+00HH for the Rust decoder; the specification decoder returns `-EINVAL` for them, so the
theorems below do not speak about such values. -/
namespace P

theorem splitArgs_eq_systemd {f : Flags} (hu : f.unquote = true) (hc : f.cunescape = true) (hr : f.retainEscape = false)
    (raw : Str) (ws : List Str) (hs : splitAll f raw = some ws) : splitArgs raw = ws :=
  collect_sim (impl_next_of_spec hu hc hr) hs

/-- argument-style keys: whenever systemd (UNQUOTE|CUNESCAPE|RELAX) splits `raw` into `ws`, so does SplitWord -/
theorem C05_args_eq_systemd (raw : Str) (ws : List Str) (hs : splitAll argFlags raw = some ws) :
    splitArgs raw = ws :=
  splitArgs_eq_systemd rfl rfl rfl raw ws hs

/-- plain list keys: whenever systemd (UNQUOTE|RETAIN_ESCAPE) splits `raw` into `ws`, so does SplitStrv -/
theorem C05_strv_eq_systemd (raw : Str) (ws : List Str) (hs : splitAll strvFlags raw = some ws) :
    splitStrv raw = ws :=
  collect_sim strv_next_of_spec hs

theorem C05_no_word_dropped (raw : Str) (ws : List Str) (hs : splitAll argFlags raw = some ws) :
    (splitArgs raw).length = ws.length := by rw [C05_args_eq_systemd raw ws hs]

/-- every list of NUL-free words has a spelling (the repository's own rendering) that SplitWord reads back exactly,
    including empty words and words with separators, quotes, backslashes and control characters -/
theorem C05_rendering_reads_back (ws : List Str) (hw : ∀ w ∈ ws, ∀ c ∈ w, c ≠ '\x00') :
    splitArgs (quoteWords ws) = ws :=
  splitArgs_eq_systemd rfl rfl rfl _ _ (splitAll_quoteWords ws hw)

/-- the repaired defect D3: an explicitly quoted empty word is kept and the words after it survive -/
theorem C05_empty_word_kept :
    splitArgs ['s', 'h', ' ', '"', '"', ' ', 'f'] = [['s', 'h'], [], ['f']] ∧
    splitStrv ['s', 'h', ' ', '\'', '\'', ' ', 'f'] = [['s', 'h'], [], ['f']] := by
  constructor
  · exact C05_args_eq_systemd _ _ (by simp [splitAll, collect, Spec.extractFirst, dropSeps, isSep, Spec.word, isQuote, argFlags])
  · exact C05_strv_eq_systemd _ _ (by simp [splitAll, collect, Spec.extractFirst, dropSeps, isSep, Spec.word, isQuote, strvFlags])

/-- KF-C05-1 made explicit: for an escape ≥ 0x80 the specification decoder (restricted to results that are
    the same text in Rust) gives no answer, while the Rust decoder produces U+00HH -/
theorem C05_high_escape_boundary :
    splitAll argFlags ['\\', 'x', 'c', '3'] = none ∧ splitArgs ['\\', 'x', 'c', '3'] = [[Char.ofNat 0xc3]] := by
  constructor
  · simp [splitAll, collect, Spec.extractFirst, dropSeps, isSep, Spec.word, isQuote, argFlags, decode, specCfg,
      simpleTable, List.lookup, numKindOf, readNum, readDigits, unhex]
  · simp [splitArgs, collectImpl, Impl.next, implDropSeps, Impl.word, isSep, isQuote, decode, implCfg,
      Gen.unescSplit, List.lookup, numKindOf, readNum, readDigits, unhex, validScalar]

end P
