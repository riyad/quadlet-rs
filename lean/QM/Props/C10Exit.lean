import QM.Fs
/-! # C10 — the exit status of the whole run; stated of any `RunOut`, the result type of the run model `Cv.runTree` (which is
    compared with real runs of the binary, exit status included) -/
namespace Cv

theorem C10_exit_is_0_or_1 (r : RunOut) : r.exitStatus = 0 ∨ r.exitStatus = 1 := by
  unfold RunOut.exitStatus; split <;> simp

/-- zero exactly when every file was loaded, every drop-in merged and no conversion ended in an error (a unit the converter model
    leaves out, `.outOfModel`, is no error here) -/
theorem C10_exit_zero_iff (r : RunOut) :
    r.exitStatus = 0 ↔ r.loadErrors = 0 ∧ r.dropinErrors = 0 ∧ ∀ p ∈ r.services, outIsErr p.2 = false := by
  have : r.exitStatus = 0 ↔ r.loadErrors + r.dropinErrors + r.convErrors = 0 := by
    unfold RunOut.exitStatus; split <;> simp only [*, Nat.succ_ne_zero]
  rw [this, Nat.add_eq_zero_iff, Nat.add_eq_zero_iff, RunOut.convErrors, List.length_eq_zero_iff, List.filter_eq_nil_iff, and_assoc]
  simp only [Bool.not_eq_true]

/-- one file that cannot be loaded, one drop-in that cannot be merged, or one unit that does not convert is enough for exit status 1 —
    however many other files there are and whatever happens to them -/
theorem C10_exit_one_of_any_failure (r : RunOut)
    (h : 0 < r.loadErrors ∨ 0 < r.dropinErrors ∨ ∃ p ∈ r.services, outIsErr p.2 = true) : r.exitStatus = 1 := by
  refine (C10_exit_is_0_or_1 r).resolve_left fun h0 => ?_
  obtain ⟨a, b, c⟩ := (C10_exit_zero_iff r).mp h0
  rcases h with h | h | ⟨p, hp, he⟩
  · omega
  · omega
  · rw [c p hp] at he; cases he

end Cv
