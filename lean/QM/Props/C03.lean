import QM.Render
import QM.ConformModel
/-! # C03 — unit files parse losslessly and independently of their spelling

`Parse.parse env` is the model of `SystemdUnit::load_from_str` (parser.rs + `add_raw` validation),
character level; `env.keyChar` stands for `char::is_alphanumeric() || '-'`, `env.validRaw` for
"`unquote_value` accepts the raw value" (instantiated with the unquoter model in the driver).
A *rendering* (`RSect`, `Item`, `REntry`, `Frag`) spells a unit out with arbitrary comment and blank
lines, indentation, spacing around `=`, trailing white space, continuation breaks (with spaces
between the backslash and the newline and comment lines in between) and repeated section headers;
`eraseSects` is the plain unit it denotes. -/
namespace Parse

/-- sections in any order with repeated headers, each body any mixture of comments, blank lines and entries in any spelling,
    parse to the erased unit -/
theorem C03_parse_render (env : Env) (secs : List RSect) (wf : ∀ s ∈ secs, s.WF env) :
    parse env (renderSects secs) = .ok (eraseSects [] secs) := by
  have := parse_lines env renderItem _ (secs.map fun s => (s.name, s.items)) fun p hp => by
    obtain ⟨s, hs, rfl⟩ := List.mem_map.mp hp
    exact ⟨(wf s hs).nonempty, (wf s hs).nameChars, fun it hit => ((wf s hs).items it hit).reads, (wf s hs).valid⟩
  rwa [List.flatMap_map, List.foldl_map] at this

/-- two spellings of the same content parse to the same unit -/
theorem C03_spelling_independent (env : Env) (r₁ r₂ : List RSect)
    (wf₁ : ∀ s ∈ r₁, s.WF env) (wf₂ : ∀ s ∈ r₂, s.WF env) (h : eraseSects [] r₁ = eraseSects [] r₂) :
    parse env (renderSects r₁) = parse env (renderSects r₂) := by
  rw [C03_parse_render env r₁ wf₁, C03_parse_render env r₂ wf₂, h]


/-- KF-C03-1 as a theorem about the model: a continued line that starts with '[' ends the value -/
theorem C03_counterexample :
    parseValue ("a \\\n[b]\n".toList) = ("a".toList, "[b]\n".toList) := by
  decide


/-- repeated section headers extend the same section (entries in file order) -/
theorem C03_repeated_headers (env : Env) (a b : RSect) (wa : a.WF env) (wb : b.WF env) (h : a.name = b.name) :
    parse env (renderSects [a, b]) = .ok [(a.name, eraseItems a.items ++ eraseItems b.items)] := by
  rw [C03_parse_render env [a, b] (List.forall_mem_cons.mpr ⟨wa, List.forall_mem_singleton.mpr wb⟩)]
  simp [eraseSects, addEntries, List.lookup, h]


/-! ### before the first section header -/

theorem parseUnit_skip_ws (env : Env) (fuel : Nat) (u : Unit) (c : Char) (r : Str) (h : isAsciiWs c = true) :
    parseUnit env (fuel + 1) u (c :: r) = parseUnit env fuel u r := by
  obtain ⟨h1, h2⟩ := asciiWs_not_marker h
  simp [parseUnit, h1, h2, h]

theorem parseUnit_skip_comment (env : Env) (fuel : Nat) (u : Unit) (c : Char) (r : Str) (h : (c == '#' || c == ';') = true) :
    parseUnit env (fuel + 1) u (c :: r) = parseUnit env fuel u (takeUntil (· == '\n') (c :: r)).2 := by
  simp [parseUnit, h]

/-- anything else before the first header — a key, text — makes the file invalid: nothing is read from it -/
theorem C03_text_before_first_header_rejected (env : Env) (c : Char) (r : Str)
    (h1 : (c == '#' || c == ';') = false) (h2 : (c == '[') = false) (h3 : isAsciiWs c = false) :
    parse env (c :: r) = .error .topLevel := by
  unfold parse
  simp [parseUnit, h1, h2, h3]

/-! ### a backslash that continues into nothing -/

/-- the last line of a value ends in a backslash and the next line is empty: the value ends there (it gains the one blank of the
    continuation, which the final trim drops again) and the empty line is left for the section loop — what follows is an entry of its own -/
theorem C03_continuation_into_empty_line (f : Str) (h : bsOK f = true) (k : Nat) (rest : Str) :
    parseValue (f ++ '\\' :: (List.replicate k ' ' ++ '\n' :: '\n' :: rest)) = (trimEnd (f ++ [' ']), '\n' :: rest) := by
  unfold parseValue
  rw [pv_frag f h, pv_continuation]
  simp [pv]

/-- … also when comment lines stand between the backslash and the empty line -/
theorem C03_continuation_comment_then_empty_line (f : Str) (h : bsOK f = true) (k : Nat) (m : Char) (hm : m = '#' ∨ m = ';')
    (text : Str) (ht : ∀ c ∈ text, c ≠ '\n') (rest : Str) :
    parseValue (f ++ '\\' :: (List.replicate k ' ' ++ '\n' :: (m :: text ++ '\n' :: '\n' :: rest)))
      = (trimEnd (f ++ [' ']), '\n' :: rest) := by
  unfold parseValue
  rw [pv_frag f h, pv_continuation, pv_comment m hm text ht]
  simp [pv]

example : parseValue ("a b \\\n\nOther=1\n".toList) = ("a b".toList, "\nOther=1\n".toList) := by
  decide

end Parse
