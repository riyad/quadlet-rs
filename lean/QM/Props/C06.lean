import QM.Render
import QM.MMapLemmas
/-! # C06 — generated unit files read back exactly as generated (that values cannot forge lines: QM/Props/C06Conv.lean)

`Parse.printUnit` models `SystemdUnit::to_string` / `write_to`; `Parse.parse` the reader.
`WFSec` is the explicit well-formedness of what the generator stores: non-empty section names
without `]`/newline, keys of key characters, raw values without newline, without leading blank,
without trailing white space, with backslashes only in pairs, and accepted by the unquoter. -/
namespace Parse

/-- `none`: the empty line `to_string` ends a section with -/
def printedLine : Option (Str × Str) → Str
  | none => []
  | some (k, v) => k ++ '=' :: v

/-- the lines `to_string` prints under a header: one per entry, then an empty one -/
theorem printUnit_eq (u : Unit) :
    printUnit u = (u.map fun p => (p.1, p.2.map some ++ [none])).flatMap (sectText printedLine) := by
  simp [printUnit, sectText, printedLine, List.flatMap_map]

/-- a printed entry is the plainest spelling of an entry: no indentation, nothing around '=', one line -/
theorem WFLine.reads {env : Env} {k v : Str} (wf : WFLine env k v) : LineReads env (k ++ '=' :: v) (some (k, v)) := by
  -- the three `by simp`: "only blanks" of the empty `indent`, `ws1`, `ws2`
  have := lineReads_entry env { indent := [], key := k, ws1 := [], ws2 := [], frags := [], lastT := v } (by simp) (by simp) (by simp)
    wf.keyChars wf.keyNoStop
    (fun c hc => (head?_append_cons hc).elim (wf.keyFirst c) fun h => by subst h; decide)
    wf.bs wf.noLead
  simpa [renderEntry, renderValue, denote, trimEnd_id v wf.noTrail] using this

theorem foldl_addEntries_fresh (secs acc : Unit) (hnd : ((acc ++ secs).map Prod.fst).Nodup) :
    secs.foldl (fun u p => addEntries u p.1 p.2) acc = acc ++ secs := by
  induction secs generalizing acc with
  | nil => simp
  | cons p secs ih =>
    have hfresh : acc.lookup p.1 = none := MM.lookup_none_of_not_mem acc p.1 fun hm => by
      rw [List.map_append, List.map_cons, List.nodup_append] at hnd
      exact hnd.2.2 _ hm _ List.mem_cons_self rfl
    rw [List.foldl_cons, addEntries, hfresh, ih _ (by simpa using hnd), List.append_assoc, List.singleton_append]

/-- a well-formed unit printed by `to_string` parses back to itself -/
theorem C06_print_parse (env : Env) (u : Unit) (wf : ∀ p ∈ u, WFSec env p.1 p.2) (hnd : (u.map Prod.fst).Nodup) :
    parse env (printUnit u) = .ok u := by
  have := parse_lines env printedLine id (u.map fun p => (p.1, p.2.map some ++ [none]))
    (fun q hq => by
      obtain ⟨p, hp, rfl⟩ := List.mem_map.mp hq
      have w := wf p hp
      refine ⟨w.nonempty, w.nameChars, fun o ho => ?_, by simpa [List.filterMap_append] using w.valid⟩
      rcases List.mem_append.mp ho with h | h
      · obtain ⟨kv, hkv, rfl⟩ := List.mem_map.mp h; exact (w.lines kv hkv).reads
      · rw [List.mem_singleton.mp h]; exact lineReads_empty env)
  rw [← printUnit_eq, List.foldl_map] at this
  -- `this`: `printUnit u` parses to the fold of `addEntries` over `u` from `[]`; the section names being distinct, every step opens a
  -- new section, and the fold rebuilds `u`
  simpa [List.filterMap_append, foldl_addEntries_fresh u [] (by simpa using hnd)] using this

end Parse
