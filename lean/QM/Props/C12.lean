import QM.InstallModel
import QM.InstallBridge
/-! # C12 — writes stay inside the output directory; enablement links reach the service

`Inst.linkPaths svcFile u` / `Inst.target` model `enable_service_file` (main.rs, after the D8, D15, D16
repairs): the relative paths of the links created below the output directory, in creation order, and
their targets.  `Pth.splitSlash` gives the parts of a path as the kernel resolves them; `Pth.specStep`
is lexical resolution of one part (`Pth.Spec.cleanParts`). -/
namespace Inst
open Pth

/-- a WantedBy/RequiredBy link has exactly two parts: `<unit>.wants|.requires` and the service name -/
theorem C12_dirlink_parts (w suffix name : Str) (hw : '/' ∉ w) (hs : '/' ∉ suffix) (hn : '/' ∉ name) :
    splitSlash (dirLink w suffix name) = [w ++ suffix, name] := by
  unfold dirLink
  rw [splitSlash_append _ _ (by simp [hw, hs]), splitSlash_noSlash _ hn]

/-- … it is relative and none of its parts is "..", so it denotes a path below the output directory -/
theorem C12_dirlink_inside (w suffix name : Str) (hw : '/' ∉ w) (hs : '/' ∉ suffix) (hn : '/' ∉ name)
    (hlen : 2 < suffix.length) (hname : name ≠ dotdot) :
    isAbs (dirLink w suffix name) = false ∧ dotdot ∉ splitSlash (dirLink w suffix name) := by
  -- the first part is longer than ".."
  have hl : 2 < (w ++ suffix).length := by rw [List.length_append]; omega
  constructor
  · rw [dirLink, isAbs_append _ _ fun e => by simp [e] at hl]
    exact isAbs_of_not_mem _ (by simp [hw, hs])
  · rw [C12_dirlink_parts w suffix name hw hs hn, List.mem_cons, List.mem_singleton]
    rintro (e | e)
    · rw [← e] at hl; exact absurd hl (by decide)
    · exact hname e.symm

/-- an Alias that passes the acceptance test consists of plain names only (on the component stack of `cleaned`) -/
theorem C12_alias_inside (comps : List Comp) (hrel : ∀ c ∈ comps, c ≠ Comp.root)
    (hhead : (comps.foldl cleanStep []).head? ≠ some Comp.parent) :
    ∀ c ∈ comps.foldl cleanStep [], isNormalC c = true := by
  have hcomp : ∀ c ∈ comps, relComp (fun _ => True) c := fun c hc => by
    cases c with
    | root => exact hrel _ hc rfl
    | _ => trivial
  obtain ⟨k, xs, he, _⟩ := fold_relShape _ comps [] hcomp (relShape_nil _)
  cases k with
  | zero => rw [he]; simp [isNormalC]
  | succ n => rw [he] at hhead; simp [List.replicate_succ] at hhead

/-- the parts of a link target: `..` once per directory level of the link, then the service file -/
theorem C12_target_parts (n : Nat) (svc : Str) (hs : '/' ∉ svc) :
    splitSlash ((List.replicate n (s "../")).flatten ++ svc) = List.replicate n dotdot ++ [svc] := by
  induction n with
  | zero => simpa using splitSlash_noSlash svc hs
  | succ k ih =>
    have : (List.replicate (k + 1) (s "../")).flatten ++ svc
        = dotdot ++ '/' :: ((List.replicate k (s "../")).flatten ++ svc) := by
      simp [List.replicate_succ, s, dotdot]
    rw [this, splitSlash_append _ _ (by decide), ih]
    simp [List.replicate_succ]

/-- the link resolves to the service: from OUT, descending through the link's directories `xs` and following
    the target `..`×|xs| / service ends at OUT/service — for every OUT and every nesting depth -/
theorem C12_resolves (outParts xs : List Str) (svc : Str) (hx : ∀ x ∈ xs, isNormal x = true) (hs : isNormal svc = true) :
    (outParts ++ (xs ++ List.replicate xs.length dotdot) ++ [svc]).foldl specStep []
      = outParts.foldl specStep [] ++ [svc] :=
  Pth.C12_resolves outParts xs svc hx hs

/-- a template without instance and without DefaultInstance gets no WantedBy/RequiredBy links -/
theorem C12_template_without_default (svcFile b : Str) (u : MM.SUnit)
    (ht : templateParts svcFile = (some b, none))
    (hd : Cv.lookup u (s "Install") (s "DefaultInstance") = none) :
    linkPaths svcFile u = ((Cv.lookupAllStrv u (s "Install") (s "Alias")).map cleaned).filter (aliasOK svcFile) := by
  simp [linkPaths, ht, hd]

/-- D15: a DefaultInstance with a path separator counts as none -/
theorem C12_no_default_instance_with_slash (svcFile b d : Str) (u : MM.SUnit)
    (ht : templateParts svcFile = (some b, none))
    (hd : Cv.lookup u (s "Install") (s "DefaultInstance") = some d) (hslash : d.contains '/' = true) :
    linkPaths svcFile u = ((Cv.lookupAllStrv u (s "Install") (s "Alias")).map cleaned).filter (aliasOK svcFile) := by
  have hm : '/' ∈ d := by simpa using hslash
  simp [linkPaths, ht, hd, Option.filter, hm]

/-- WantedBy/RequiredBy names containing a path separator contribute nothing -/
theorem C12_slash_names_ignored (svcFile : Str) (u : MM.SUnit)
    (hw : ∀ w ∈ Cv.lookupAllStrv u (s "Install") (s "WantedBy"), w.contains '/' = true)
    (hr : ∀ w ∈ Cv.lookupAllStrv u (s "Install") (s "RequiredBy"), w.contains '/' = true) :
    linkPaths svcFile u = ((Cv.lookupAllStrv u (s "Install") (s "Alias")).map cleaned).filter (aliasOK svcFile) := by
  have none_left (l : List Str) (h : ∀ w ∈ l, w.contains '/' = true) : l.filter (fun w => !w.contains '/') = [] :=
    List.filter_eq_nil_iff.mpr fun w hm => by simpa using h w hm
  simp only [linkPaths, none_left _ hw, none_left _ hr]
  split <;> simp


/-- the acceptance test is made on the cleaned *string*; an alias that passes it is relative and every part of it, as the
    kernel resolves the path, is a plain name (no "..", ".", or empty part): the link lies strictly below the output
    directory -/
theorem C12_alias_string (svcFile raw : Str) (h : aliasOK svcFile (cleaned raw) = true) :
    isAbs (cleaned raw) = false ∧ ∀ part ∈ splitSlash (cleaned raw), isNormal part = true :=
  alias_string svcFile raw h

/-! ### carrying the plan out: every link on its own -/

/-- a link that cannot be made (a parent on its path is the service file or an earlier link) leaves everything as it was -/
theorem C12_blocked_link_no_effect (svcFile : Str) (st : Made) (k : Str) (h : blocked svcFile st k = true) :
    carryStep svcFile st k = st := by
  simp [carryStep, h]

/-- … so the plan with it and the plan without it create exactly the same links and directories: the links after it are made as if it
    had not been asked for (the first failure does not stop the rest) -/
theorem C12_failed_link_does_not_stop_the_rest (svcFile : Str) (before after : List Str) (k : Str)
    (h : blocked svcFile (carryOut svcFile before) k = true) :
    carryOut svcFile (before ++ k :: after) = carryOut svcFile (before ++ after) := by
  unfold carryOut at h ⊢
  rw [List.foldl_append, List.foldl_append, List.foldl_cons, C12_blocked_link_no_effect svcFile _ k h]

theorem carryStep_links_eq (svcFile : Str) (st : Made) (k : Str) :
    (carryStep svcFile st k).links = st.links ∨ (carryStep svcFile st k).links = st.links ++ [k] := by
  unfold carryStep
  cases blocked svcFile st k
  · cases (withParents st k).contains k
    · cases st.links.contains k <;> simp
    · simp
  · simp

/-- what was made stays: a later link (made or not) never removes an earlier one -/
theorem C12_links_stay (svcFile : Str) (st : Made) (k l : Str) (h : l ∈ st.links) : l ∈ (carryStep svcFile st k).links := by
  rcases carryStep_links_eq svcFile st k with e | e <;> rw [e]
  · exact h
  · exact List.mem_append_left _ h

theorem C12_links_stay_all (svcFile : Str) (st : Made) (ks : List Str) (l : Str) (h : l ∈ st.links) :
    l ∈ (ks.foldl (carryStep svcFile) st).links :=
  List.foldlRecOn ks (carryStep svcFile) (motive := fun st => l ∈ st.links) h fun st h k _ => C12_links_stay svcFile st k l h

theorem carryStep_links (svcFile : Str) (st : Made) (k l : Str) (h : l ∈ (carryStep svcFile st k).links) : l ∈ st.links ∨ l = k := by
  rcases carryStep_links_eq svcFile st k with e | e <;> rw [e] at h
  · exact .inl h
  · simpa using h

/-- only links of the plan are made -/
theorem C12_made_subset_plan (svcFile : Str) (plan : List Str) (st : Made) (hst : ∀ l ∈ st.links, l ∈ plan) :
    ∀ l ∈ (plan.foldl (carryStep svcFile) st).links, l ∈ plan :=
  List.foldlRecOn plan (carryStep svcFile) (motive := fun st => ∀ l ∈ st.links, l ∈ plan) hst fun st h k hk l hl =>
    (carryStep_links svcFile st k l hl).elim (h l) (fun e => e ▸ hk)

/-- a link directly in the output directory (an alias without '/') is never blocked (`carryStep` then makes it unless a directory
    has its name; that half is not stated) -/
theorem C12_top_level_never_blocked (svcFile : Str) (st : Made) (k : Str) (h : k.contains '/' = false) :
    blocked svcFile st k = false := by
  have hp : parentsOf k = [] := by
    unfold parentsOf
    rw [List.filterMap_eq_nil_iff]
    intro i _
    have hne : k[i]? ≠ some '/' := fun e => by simp [List.mem_of_getElem? e] at h
    simp [hne]
  simp [blocked, hp]

example : (carryOut (s "a.service") [s "a.service/x.service", s "b.service", s "b.service/y", s "t.wants/a.service", s "t.wants"]).links
    = [s "b.service", s "t.wants/a.service"] := by decide +kernel

end Inst
