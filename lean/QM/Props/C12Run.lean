import QM.Props.C12
import QM.Props.C18Run
import QM.NameLemmas
/-! # C12 for the whole plan of a service and for the whole run

The plan is `Inst.linkPaths`: every link path `enable_service_file` plans for a service — each Alias, each WantedBy, each
RequiredBy; the run is `Cv.process`. -/
namespace Inst
open Pth

theorem templateBase_mem (name b : Str) (i : Option Str) (h : templateParts name = (some b, i)) : ∀ d ∈ b, d ∈ name := by
  unfold templateParts at h
  rcases Cv.splitOnce_cases '@' (fileStem name) with ⟨_, e⟩ | ⟨b', i', hx, _, e⟩ <;>
    rw [show splitOnce = Cv.splitOnce from rfl, e] at h
  · cases h
  · have hb : b = b' := by
      cases hbe : b'.isEmpty <;> cases hie : i'.isEmpty <;> simp [hbe, hie] at h <;> exact h.1.symm
    subst hb
    exact fun d hd => (Cv.stem_ext_mem name).1 d (by rw [show Cv.fileStem = fileStem from rfl, hx]; exact List.mem_append_left _ hd)

theorem serviceName_plain (svcFile b d : Str) (hs : '/' ∉ svcFile) (i : Option Str) (ht : templateParts svcFile = (some b, i))
    (hd : '/' ∉ d) : '/' ∉ (b ++ '@' :: d ++ '.' :: extension svcFile) ∧ (b ++ '@' :: d ++ '.' :: extension svcFile) ≠ dotdot := by
  have hb : '/' ∉ b := fun h => hs (templateBase_mem svcFile b i ht _ h)
  have he : '/' ∉ extension svcFile := fun h => hs ((Cv.stem_ext_mem svcFile).2 _ h)
  refine ⟨by simp [hb, hd, he], fun e => ?_⟩
  have : '@' ∈ (b ++ '@' :: d ++ '.' :: extension svcFile) := by simp
  rw [e] at this
  exact absurd this (by decide)

/-- the name the WantedBy / RequiredBy links of a service carry: the service file, for a template without instance the default
    instance (none, no such links, when it is missing or holds a separator) -/
def linkName (svcFile : Str) (u : MM.SUnit) : Str :=
  match templateParts svcFile with
  | (some b, none) =>
    match (Cv.lookup u (s "Install") (s "DefaultInstance")).filter (fun d => !d.contains '/') with
    | some d => b ++ '@' :: d ++ '.' :: extension svcFile
    | none => []
  | _ => svcFile

def dirLinks (u : MM.SUnit) (name : Str) (key suffix : String) : List Str :=
  if name.isEmpty then []
  else ((Cv.lookupAllStrv u (s "Install") (s key)).filter (fun w => !w.contains '/')).map fun w => dirLink w (s suffix) name

theorem linkPaths_eq (svcFile : Str) (u : MM.SUnit) :
    linkPaths svcFile u = ((Cv.lookupAllStrv u (s "Install") (s "Alias")).map cleaned).filter (aliasOK svcFile)
      ++ dirLinks u (linkName svcFile u) "WantedBy" ".wants" ++ dirLinks u (linkName svcFile u) "RequiredBy" ".requires" := by
  unfold linkPaths linkName dirLinks
  rcases templateParts svcFile with ⟨_ | b, _ | i⟩ <;> rfl

theorem linkName_plain (svcFile : Str) (u : MM.SUnit) (hs : '/' ∉ svcFile) (hne : svcFile ≠ dotdot) :
    linkName svcFile u = [] ∨ ('/' ∉ linkName svcFile u ∧ linkName svcFile u ≠ dotdot) := by
  unfold linkName
  split
  · rename_i b ht
    split
    · rename_i d hd
      have hdn : '/' ∉ d := by simpa using (Option.mem_filter_iff.mp (Option.mem_def.mpr hd)).2
      exact Or.inr (serviceName_plain svcFile b d hs none ht hdn)
    · exact Or.inl rfl
  · exact Or.inr ⟨hs, hne⟩

theorem dirLinks_inside (u : MM.SUnit) (name : Str) (key suffix : String) (hn : name = [] ∨ ('/' ∉ name ∧ name ≠ dotdot))
    (hsf : '/' ∉ s suffix) (hlen : 2 < (s suffix).length) :
    ∀ rel ∈ dirLinks u name key suffix, isAbs rel = false ∧ dotdot ∉ splitSlash rel := by
  intro rel hrel
  unfold dirLinks at hrel
  rcases hn with rfl | ⟨h1, h2⟩
  · simp at hrel
  · split at hrel
    · simp at hrel
    · obtain ⟨w, hw, rfl⟩ := List.mem_map.mp hrel
      exact C12_dirlink_inside w (s suffix) name (by simpa using (List.mem_filter.mp hw).2) hsf h1 hlen h2

/-- **C12, the whole plan**: whatever the [Install] section of a service holds, every link path that is planned for it is relative and
    none of its parts (as the kernel resolves the path) is "..": the link lies below the output directory.  Needs only that the
    service's own file name is a file name (no separator, not "..") -/
theorem C12_plan_inside (svcFile : Str) (u : MM.SUnit) (hs : '/' ∉ svcFile) (hne : svcFile ≠ dotdot) :
    ∀ rel ∈ linkPaths svcFile u, isAbs rel = false ∧ dotdot ∉ splitSlash rel := by
  intro rel hrel
  rw [linkPaths_eq, List.mem_append, List.mem_append] at hrel
  rcases hrel with (h | h) | h
  · obtain ⟨hm, hok⟩ := List.mem_filter.mp h
    obtain ⟨raw, _, rfl⟩ := List.mem_map.mp hm
    obtain ⟨h1, h2⟩ := C12_alias_string svcFile raw hok
    exact ⟨h1, fun hm => absurd (h2 dotdot hm) (by decide)⟩
  · exact dirLinks_inside u _ _ _ (linkName_plain svcFile u hs hne) (by simp [s]) (by simp [s]) rel h
  · exact dirLinks_inside u _ _ _ (linkName_plain svcFile u hs hne) (by simp [s]) (by simp [s]) rel h

end Inst

namespace Cv
open MM

/-- the file name of `<anything>.service` ends with `e`: it is not ".." -/
theorem serviceFileName_ne_dotdot (i : Info) : serviceFileName i ≠ Pth.dotdot := by
  unfold serviceFileName fileName
  intro e
  rcases splitLast_cases '/' (i.serviceName ++ s ".service") with ⟨_, h⟩ | ⟨a, b, hx, _, h⟩ <;> rw [h] at e <;> simp only at e
  · simpa [s, Pth.dotdot] using congrArg List.getLast? e
  · subst e
    simpa [s, Pth.dotdot] using congrArg List.getLast? hx

/-- **C12 for the whole run**: every link made by a run of `process` — for whatever tree, in whatever mode, whatever the file
    system answers — is a relative path below the output directory: not absolute, no ".." among its parts -/
theorem C12_run_links_inside (cfg : Cfg) (w : World) (t : Tree) (f : Str) (links : List (Str × Str))
    (he : Eff.enable f links ∈ (process cfg w t).effs) :
    ∀ l ∈ links, Pth.isAbs l.1 = false ∧ Pth.dotdot ∉ Pth.splitSlash l.1 := by
  obtain ⟨q, svc, _, h2⟩ := C12_run_links_are_plans cfg w t f links he
  intro l hl
  -- not `subst h2`: it reduces the plan to weak head normal form first
  rw [h2, Inst.planLinks, List.mem_map] at hl
  obtain ⟨rel, hrel, rfl⟩ := hl
  exact Inst.C12_plan_inside (svcFileOf q) svc (fileName_noSlash _) (serviceFileName_ne_dotdot _) rel hrel

/-- … and a dry run makes none at all -/
theorem C12_dry_run_no_links (cfg : Cfg) (w : World) (t : Tree) (h : cfg.dryRun = true) (f : Str) (links : List (Str × Str)) :
    Eff.enable f links ∉ (process cfg w t).effs := by
  intro he
  obtain ⟨_, _, _, hd, _⟩ := C18_run_not_enabled cfg w t f links he
  rw [h] at hd; cases hd

end Cv
