import QM.RunLemmas
import QM.Props.C18
/-! # C18 (and the run-level clauses of C10 and C12) over `Cv.process`, the model of the whole of `process()`

The units the loop goes through are those of `Cv.runTree`, the model the C10 / C13 theorems are about (`run_services`, QM/RunLemmas.lean). -/
namespace Cv
open MM

/-- the hypotheses under which a run reaches its conversion loop -/
structure Reaches (cfg : Cfg) (w : World) (t : Tree) : Prop where
  loaded : (loadedUnits t).isEmpty = false
  outdir : cfg.dryRun = true ∨ w.mkdirOk = true

theorem exit_one_of_err (r : ProcOut) (e : RunErr) (h : e ∈ r.errs) : r.exit = 1 := Wr.status_eq_one h

theorem Reaches.effs {cfg : Cfg} {w : World} {t : Tree} (h : Reaches cfg w t) (qo : QUnit × Out) (hq : qo ∈ converted t) (e : Eff)
    (he : e ∈ stepEffs cfg w qo) : e ∈ (process cfg w t).effs := by
  rw [process_effs cfg w t h.loaded h.outdir]
  exact List.mem_append_right _ (List.mem_flatMap.mpr ⟨qo, hq, he⟩)

theorem Reaches.errs {cfg : Cfg} {w : World} {t : Tree} (h : Reaches cfg w t) (qo : QUnit × Out) (hq : qo ∈ converted t) (e : RunErr)
    (he : e ∈ stepErrs cfg w qo) : e ∈ (process cfg w t).errs ∧ (process cfg w t).exit = 1 := by
  have hm : e ∈ (process cfg w t).errs := by
    rw [process_errs cfg w t h.loaded h.outdir]
    exact List.mem_append_right _ (List.mem_flatMap.mpr ⟨qo, hq, he⟩)
  exact ⟨hm, exit_one_of_err _ _ hm⟩

/-- a unit of the run that converts but whose service file cannot be created or written to the end: the failure is reported
    under the file's path and the exit status is 1 -/
theorem C18_run_failed_write_reported (cfg : Cfg) (w : World) (t : Tree) (h : Reaches cfg w t) (hd : cfg.dryRun = false)
    (q : QUnit) (svc : SUnit) (hq : (q, Out.ok svc) ∈ converted t) (hf : writeOk cfg w q svc = false) :
    RunErr.write (svcPathOf cfg q) ∈ (process cfg w t).errs ∧ (process cfg w t).exit = 1 :=
  h.errs _ hq _ (by simp [stepErrs, hd, hf])

/-- a service is enabled only if its file was written completely: every `enable` of the run belongs to a unit that converted and
    whose write succeeded, and its links are the plan for that unit's service (that the `enable` comes right after the write is how
    `stepEffs` lists them; no order is stated here) -/
theorem C18_run_not_enabled (cfg : Cfg) (w : World) (t : Tree) (f : Str) (links : List (Str × Str))
    (he : Eff.enable f links ∈ (process cfg w t).effs) :
    ∃ q svc, (q, Out.ok svc) ∈ converted t ∧ cfg.dryRun = false ∧ writeOk cfg w q svc = true
      ∧ f = svcFileOf q ∧ links = Inst.planLinks (svcFileOf q) svc := by
  rcases mem_effs cfg w t _ he with ⟨h, _⟩ | ⟨⟨q, o⟩, hmem, hin⟩
  · cases h
  · unfold stepEffs at hin
    cases o with
    | err e => simp at hin
    | outOfModel => simp at hin
    | ok svc =>
      cases hdr : cfg.dryRun <;> cases hw : writeOk cfg w q svc <;> simp [hdr, hw] at hin
      exact ⟨q, svc, hmem, rfl, hw, hin.1, hin.2⟩

/-- a failure does not stop the run: every unit that converts and whose file can be written is written — with exactly the text
    of the converted unit — and enabled, whatever happens to the other units -/
theorem C18_run_others_written (cfg : Cfg) (w : World) (t : Tree) (h : Reaches cfg w t) (hd : cfg.dryRun = false)
    (q : QUnit) (svc : SUnit) (hq : (q, Out.ok svc) ∈ converted t) (hk : writeOk cfg w q svc = true) :
    Eff.write (svcPathOf cfg q) (writtenText svc) ∈ (process cfg w t).effs
      ∧ Eff.enable (svcFileOf q) (Inst.planLinks (svcFileOf q) svc) ∈ (process cfg w t).effs :=
  ⟨h.effs _ hq _ (by simp [stepEffs, hd, hk]), h.effs _ hq _ (by simp [stepEffs, hd, hk])⟩

/-- the output directory cannot be created: reported with its path, status 1, and no file, link or directory is made -/
theorem C18_run_no_outdir (cfg : Cfg) (w : World) (t : Tree) (hq : (loadedUnits t).isEmpty = false)
    (hd : cfg.dryRun = false) (hm : w.mkdirOk = false) :
    RunErr.mkdir cfg.out ∈ (process cfg w t).errs ∧ (process cfg w t).exit = 1 ∧ (process cfg w t).effs = [] := by
  have hp : process cfg w t = { effs := [], errs := earlyErrs t ++ [RunErr.mkdir cfg.out] } := by
    simp only [process_eq, hq, hd, hm, Bool.not_false, Bool.and_self, Bool.false_eq_true, if_false, if_true]
  have hmem : RunErr.mkdir cfg.out ∈ (process cfg w t).errs := by rw [hp]; simp
  exact ⟨hmem, exit_one_of_err _ _ hmem, by rw [hp]⟩

/-- C12 at the run level: the links of a run are the planned links (`Inst.planLinks`, the plan the C12 theorems are about) of units
    it wrote, nothing else -/
theorem C12_run_links_are_plans (cfg : Cfg) (w : World) (t : Tree) (f : Str) (links : List (Str × Str))
    (he : Eff.enable f links ∈ (process cfg w t).effs) :
    ∃ q svc, (q, Out.ok svc) ∈ converted t ∧ links = Inst.planLinks (svcFileOf q) svc := by
  obtain ⟨q, svc, h1, _, _, _, h5⟩ := C18_run_not_enabled cfg w t f links he
  exact ⟨q, svc, h1, h5⟩

/-- the path an error of a run carries: of the unit file, the drop-in, the output directory or the service file concerned -/
def RunErr.path : RunErr → Str
  | .load p => p | .dropin p => p | .convert p _ => p | .mkdir p => p | .write p => p

/-- C10 at the run level: a unit that does not convert is reported with the path of its file, and the status is 1 -/
theorem C10_run_failures_name_their_file (cfg : Cfg) (w : World) (t : Tree) (h : Reaches cfg w t)
    (q : QUnit) (e : Err) (hq : (q, Out.err e) ∈ converted t) :
    RunErr.convert q.path e ∈ (process cfg w t).errs ∧ (process cfg w t).exit = 1 :=
  h.errs _ hq _ (by simp [stepErrs])

theorem C10_run_exit_zero_iff (r : ProcOut) : r.exit = 0 ↔ r.errs = [] := Wr.status_eq_zero r.errs

end Cv
