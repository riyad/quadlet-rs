import QM.QuoteLemmas
import QM.ConvKept
import QM.SpellLemmas
/-! # C01 — quoted podman command lines split back into exactly the intended arguments

`P.quoteWords` is the model of `quote_words` (= `PodmanCommand::to_escaped_string`), driven by the
tables extracted from quoted.rs on every run; `P.splitAll P.execFlags` is the transcription of
systemd's `extract_first_word` with `EXTRACT_UNQUOTE|EXTRACT_CUNESCAPE` (what `config_parse_exec`
applies to every word of an `Exec*=` line), iterated until no word is left; `none` is `-EINVAL`. -/
namespace P

theorem C01_roundtrip (ws : List Str) (hw : ∀ w ∈ ws, ∀ c ∈ w, c ≠ '\x00') :
    splitAll execFlags (quoteWords ws) = some ws :=
  splitAll_quoteWords ws hw

example : splitAll execFlags (quoteWords ["".toList, "a b".toList, "x\"y'\\\n\t\x01\x7f".toList, "é–".toList, "-v".toList, "   ".toList])
    = some ["".toList, "a b".toList, "x\"y'\\\n\t\x01\x7f".toList, "é–".toList, "-v".toList, "   ".toList] :=
  C01_roundtrip _ (by decide)

/-- the number of arguments is preserved -/
theorem C01_count (ws : List Str) (hw : ∀ w ∈ ws, ∀ c ∈ w, c ≠ '\x00') :
    (splitAll execFlags (quoteWords ws)).map List.length = some ws.length := by
  rw [C01_roundtrip ws hw]; rfl

/-- the rendered line of NUL-free arguments is always accepted when it is stored in the service unit (`add_raw` validates with
    the unquoter) -/
theorem C01_storable (ws : List Str) (hw : ∀ w ∈ ws, ∀ c ∈ w, c ≠ '\x00') :
    ∃ r, unquoteValue true (quoteWords ws) = some r := unquote_quoteWords ws hw

/-- an empty argument is rendered as `""` and not dropped (the repaired defect D1) -/
theorem C01_empty_kept : quoteWords [['a'], [], ['b']] = ['a', ' ', '"', '"', ' ', 'b'] := by decide

end P

/-! ### the converters: the Exec lines of the generated service

Every entry of a generated service is the user's or one of the generator's writes (`Cv.Converts.mem`, QM/ConvKept.lean): `add`,
`set`, `prepend` never write an Exec key, `add_raw` is only called with `quote_words` output.  Hence every `Exec*=` entry of the generated [Service] is
either one of the user's own [Service] entries (verbatim, C07) or the rendering of an argument vector — which, by
`C01_roundtrip`, systemd splits into exactly that vector.  Stated below for six converters; the .image service is written
out in full by `C02_image_shape` (Props/C02.lean). -/
namespace Cv
open MM

def ExecLinesRendered (u svc : SUnit) : Prop :=
  ∀ e ∈ entriesOf svc (s "Service"), e.1 ∈ execKeys →
    e ∈ entriesOf u (s "Service") ∨
    ∃ cmd, e.2 = P.quoteWords cmd ∧ ((∀ w ∈ cmd, ∀ c ∈ w, c ≠ '\x00') → P.splitAll P.execFlags e.2 = some cmd)

theorem Converts.execLines {u svc : SUnit} {own xown : Str} (c : Converts u svc own xown) (hnd : (u.map Prod.fst).Nodup) :
    ExecLinesRendered u svc := fun e he hk =>
  (c.execs hnd e he hk).imp_right fun ⟨cmd, hc⟩ => ⟨cmd, hc, fun hw => hc ▸ P.C01_roundtrip cmd hw⟩

theorem C01_container_exec_lines (E : Env) (path : Str) (u svc : SUnit) (link : Option (Str × Str)) (hnd : (u.map Prod.fst).Nodup)
    (h : fromContainer E path u = some (.ok (svc, link))) : ExecLinesRendered u svc :=
  (converts_fromContainer h).execLines hnd
theorem C01_pod_exec_lines (E : Env) (path : Str) (u svc : SUnit) (cs : List Str) (hnd : (u.map Prod.fst).Nodup)
    (h : fromPod E path u cs = .ok svc) : ExecLinesRendered u svc :=
  (converts_fromPod h).execLines hnd
theorem C01_kube_exec_lines (E : Env) (path : Str) (u svc : SUnit) (hnd : (u.map Prod.fst).Nodup)
    (h : fromKube E path u = .ok svc) : ExecLinesRendered u svc :=
  (converts_fromKube h).execLines hnd
theorem C01_volume_exec_lines (E : Env) (path : Str) (u svc : SUnit) (n : Str) (hnd : (u.map Prod.fst).Nodup)
    (h : fromVolume E path u = .ok (svc, n)) : ExecLinesRendered u svc :=
  (converts_fromVolume h).execLines hnd
theorem C01_network_exec_lines (E : Env) (path : Str) (u svc : SUnit) (n : Str) (hnd : (u.map Prod.fst).Nodup)
    (h : fromNetwork E path u = .ok (svc, n)) : ExecLinesRendered u svc :=
  (converts_fromNetwork h).execLines hnd
theorem C01_build_exec_lines (E : Env) (path : Str) (u svc : SUnit) (hnd : (u.map Prod.fst).Nodup)
    (h : fromBuild E path u = .ok svc) : ExecLinesRendered u svc :=
  (converts_fromBuild h).execLines hnd

end Cv
