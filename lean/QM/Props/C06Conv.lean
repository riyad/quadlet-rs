import QM.Props.C06
import QM.ConvKept
import QM.ParseNL
/-! # C06, converter level — values cannot forge lines

`Cv.AllNoNL u`: no key and no raw value of `u` contains a newline (the reader's guarantee for a loaded unit: a value is
one logical line).  For every successful conversion by a converter model (stated for all but .image) the generated service is
newline-free as well, so `to_string` / `write_to` emit exactly one line per entry (`Parse.printUnit`): whatever the values, paths and
names are, nothing the generator stores can start a line of its own.  (`Cv.Converts.mem`, QM/ConvKept.lean: every entry of the
service is the user's or was written; `add` / `set` / `prepend` store `quote_value` output with literal keys, `add_raw` stores
`quote_words` output — both newline-free by `C06_quoteValue_no_newline` / `C06_quoteWords_no_newline` over the extracted escape
tables — `merge_from` and `rename_section` copy entries.) -/
namespace Cv
open MM

theorem AllNoNL.of_sections {u : SUnit} (h : ∀ p ∈ u, ∀ e ∈ p.2, '\n' ∉ e.1 ∧ '\n' ∉ e.2) : AllNoNL u := fun _ _ he =>
  (exists_mem_of_mem_entriesOf he).elim fun _ hm => h _ hm.1 _ hm.2

theorem C06_container_no_forged_lines (E : Env) (path : Str) (u svc : SUnit) (link : Option (Str × Str)) (hnd : (u.map Prod.fst).Nodup)
    (hu : AllNoNL u) (h : fromContainer E path u = some (.ok (svc, link))) : AllNoNL svc :=
  (converts_fromContainer h).noNL hnd hu
theorem C06_pod_no_forged_lines (E : Env) (path : Str) (u svc : SUnit) (cs : List Str) (hnd : (u.map Prod.fst).Nodup)
    (hu : AllNoNL u) (h : fromPod E path u cs = .ok svc) : AllNoNL svc :=
  (converts_fromPod h).noNL hnd hu
theorem C06_kube_no_forged_lines (E : Env) (path : Str) (u svc : SUnit) (hnd : (u.map Prod.fst).Nodup)
    (hu : AllNoNL u) (h : fromKube E path u = .ok svc) : AllNoNL svc :=
  (converts_fromKube h).noNL hnd hu
theorem C06_volume_no_forged_lines (E : Env) (path : Str) (u svc : SUnit) (n : Str) (hnd : (u.map Prod.fst).Nodup)
    (hu : AllNoNL u) (h : fromVolume E path u = .ok (svc, n)) : AllNoNL svc :=
  (converts_fromVolume h).noNL hnd hu
theorem C06_network_no_forged_lines (E : Env) (path : Str) (u svc : SUnit) (n : Str) (hnd : (u.map Prod.fst).Nodup)
    (hu : AllNoNL u) (h : fromNetwork E path u = .ok (svc, n)) : AllNoNL svc :=
  (converts_fromNetwork h).noNL hnd hu
theorem C06_build_no_forged_lines (E : Env) (path : Str) (u svc : SUnit) (hnd : (u.map Prod.fst).Nodup)
    (hu : AllNoNL u) (h : fromBuild E path u = .ok svc) : AllNoNL svc :=
  (converts_fromBuild h).noNL hnd hu

/-- the premise holds for every unit the reader accepts -/
theorem C06_loaded_unit_newline_free (env : Parse.Env) (text : Str) (u : SUnit) (h : Parse.parse env text = .ok u) : AllNoNL u :=
  .of_sections fun p hp => (Parse.parse_noNL env text u h p hp).2

/-- … so: a unit that was loaded and converts (here as a `.container`) gives a service without a newline in any key or raw value,
    whatever the text was.  That `to_string` then writes one line per entry is not part of the statement. -/
theorem C06_container_end_to_end (env : Parse.Env) (text : Str) (E : Env) (path : Str) (u svc : SUnit) (link : Option (Str × Str))
    (hp : Parse.parse env text = .ok u) (hnd : (u.map Prod.fst).Nodup)
    (h : fromContainer E path u = some (.ok (svc, link))) : AllNoNL svc :=
  C06_container_no_forged_lines E path u svc link hnd (C06_loaded_unit_newline_free env text u hp) h

/-- the premise is what the reader delivers; here for a concrete unit with an escaped newline in a value -/
example : AllNoNL [(s "Container", [(s "Image", s "img"), (s "Exec", s "a\\nb")])] :=
  .of_sections (by decide)

end Cv
