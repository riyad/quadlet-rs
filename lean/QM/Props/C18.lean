import QM.Writer
/-! # C18 — failures to write output are reported, never silently ignored

`Wr.generate true limit cap chunks` models `generate_service_file` (main.rs, after the D11 repair) over
`BufWriter`'s documented contract: bytes are buffered, spilled when the buffer would overflow, written through
when a piece is at least as large as the buffer, and — repaired code — flushed explicitly before returning (the
flush on drop discards its error).  The sink accepts `limit` bytes in total and then fails (`limit = 0` is /dev/full).
`Wr.runWrites` is the write loop of `process`.  The kernel's error sources are not modelled; the tie is by real runs
with /dev/full, a directory at the service path, and an output directory that cannot be created. -/
namespace Wr

/-- C18 (writer, repaired): whenever the sink cannot take the whole file — wherever the failing write
    falls, including only at the final flush — generate reports an error -/
theorem C18_reported (limit cap : Nat) (chunks : List Nat) (h : chunks.sum > limit) :
    generate true limit cap chunks = false := by
  rw [generate_fixed]; exact decide_eq_false (Nat.not_le.mpr h)

/-- D11 as a theorem about the model of the pinned code: a 100-byte service written to /dev/full -/
theorem C18_pinned_counterexample : generate false 0 8192 [40, 60] = true := by decide

/-- and no false alarms: when everything fits the repaired code succeeds -/
theorem C18_ok (limit cap : Nat) (chunks : List Nat) (h : chunks.sum ≤ limit) :
    generate true limit cap chunks = true := by
  rw [generate_fixed]; exact decide_eq_true h

/-- a unit whose file cannot be created, or whose sink cannot take all its bytes (wherever the failing write falls),
    is reported with its path, makes the exit status non-zero, and is not enabled — at every position of a run -/
theorem C18_loop_reported (cap : Nat) (pre post : List (Job × Fault)) (j : Job) (f : Fault)
    (hf : f = Fault.create ∨ ∃ l, f = Fault.sink l ∧ j.chunks.sum > l)
    (hname : ∀ jf ∈ pre ++ post, jf.1.name ≠ j.name) :
    let o := runWrites cap (pre ++ (j, f) :: post)
    j.name ∈ o.errors ∧ exitStatus o = 1 ∧ j.name ∉ o.enabled ∧ j.name ∉ o.written := by
  have hfail : writeOne cap f j = false := by
    rcases hf with rfl | ⟨l, rfl, hl⟩
    · rfl
    · exact C18_reported l cap j.chunks hl
  have hbad : j.name ∈ namesWhere cap false (pre ++ (j, f) :: post) :=
    mem_namesWhere.mpr ⟨(j, f), by simp, hfail, rfl⟩
  -- a job that succeeds under this name would be `(j, f)` itself, the names of the others being different
  have hgood : j.name ∉ namesWhere cap true (pre ++ (j, f) :: post) := fun h => by
    obtain ⟨jf, hm, hok, hn⟩ := mem_namesWhere.mp h
    have : jf = (j, f) ∨ jf ∈ pre ++ post := by simpa [or_left_comm] using hm
    rcases this with rfl | h
    · rw [hfail] at hok; cases hok
    · exact hname jf h hn
  simp only [runWrites_eq]
  exact ⟨hbad, exitStatus_of_mem hbad, hgood, hgood⟩

/-- … and every other unit whose write succeeds is still written and enabled (the loop continues) -/
theorem C18_others_written (cap : Nat) (jobs : List (Job × Fault)) (j : Job) (f : Fault) (hm : (j, f) ∈ jobs)
    (hok : writeOne cap f j = true) :
    j.name ∈ (runWrites cap jobs).written ∧ j.name ∈ (runWrites cap jobs).enabled := by
  rw [runWrites_eq]
  exact ⟨mem_namesWhere.mpr ⟨_, hm, hok, rfl⟩, mem_namesWhere.mpr ⟨_, hm, hok, rfl⟩⟩

/-- no failure, no error: exit status 0 exactly when every unit could be written -/
theorem C18_exit_zero_iff (cap : Nat) (jobs : List (Job × Fault)) :
    exitStatus (runWrites cap jobs) = 0 ↔ ∀ jf ∈ jobs, writeOne cap jf.2 jf.1 = true := by
  rw [runWrites_eq, exitStatus_eq_zero, namesWhere, List.map_eq_nil_iff, List.filter_eq_nil_iff]
  exact forall₂_congr fun jf _ => by cases writeOne cap jf.2 jf.1 <;> simp

end Wr
