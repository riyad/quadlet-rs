import QM.SpellLemmas
/-! # C04 — single-valued keys are unquoted as documented in systemd.syntax

`P.unquoteValue true` is the model of `unquote_value` (quoted.rs, after the D2 and D12d repairs), with the
single-letter escape table extracted from the source on every run.  `P.quoteValue` is the model of
the repository's own quoter, used here only to *construct* a spelling. -/
namespace P

/-- the single-letter C escapes denote the documented characters, wherever they occur -/
theorem C04_simple_escapes : ∀ p ∈ simpleTable, ∀ t, decode quotedCfg (p.1 :: t) = some (p.2, t) :=
  escOK_simple

/-- `\xHH` denotes the character with that code (below 0x80 the byte and the character reading agree) -/
theorem C04_hex_escape (c : Char) (hlt : c.toNat < 128) (hnz : c.toNat ≠ 0) (t : Str) :
    decode quotedCfg ('x' :: hexDigit (c.toNat / 16) :: hexDigit (c.toNat % 16) :: t) = some (c, t) :=
  escOK_hex c hlt hnz t

/-- malformed values are errors, not silently accepted: lone trailing backslash, NUL, `\x00`, short hex, unknown
    escape letter -/
theorem C04_errors :
    unquoteValue true ['a', '\\'] = none ∧
    unquoteValue true ['a', '\x00'] = none ∧
    unquoteValue true ['\\', 'x', '0', '0'] = none ∧
    unquoteValue true ['\\', 'x', '4'] = none ∧
    unquoteValue true ['\\', 'q'] = none := by
  refine ⟨?_, ?_, ?_, ?_, ?_⟩ <;> simp [unquoteValue, unq, isQuote, endsWs, decode, quotedCfg, Gen.unescQuoted,
    List.lookup, numKindOf, readNum, readDigits, unhex, validScalar]

/-- the repaired defect D2: the other quote character inside an open quote is kept verbatim -/
theorem C04_nested_quote_kept :
    unquoteValue true ['"', 's', 'h', ' ', '\'', 'x', ' ', 'y', '\'', '"'] = some ['s', 'h', ' ', '\'', 'x', ' ', 'y', '\''] := by
  simp [unquoteValue, unq, isQuote, endsWs]

/-- **every documented spelling reads back**: a value spelled as any sequence of quoted runs (double or single quotes,
    each starting at the beginning of the value or after whitespace; inside, every character literal except the
    closing quote and the backslash — so the other kind of quote character is kept verbatim) and bare runs (literal
    characters, white space included; a quote character only where it cannot start a quoted run), with C-style
    escapes anywhere, is read as exactly the string it denotes -/
theorem C04_reads_back (segs : List Seg) (wf : segsWF [] segs) :
    unquoteValue true (renderSegs segs) = some (denoteSegs segs) := by
  unfold unquoteValue
  rw [unq_segs segs [] wf]; simp

/-- wholly double-quoted, wholly single-quoted and unquoted-with-escapes spellings are instances -/
theorem C04_wholly_quoted (q : Char) (hq : isQuote q = true) (ps : List Piece) (wf : quotedWF q ps) :
    unquoteValue true (q :: (renderPieces ps ++ [q])) = some (denotePieces ps) := by
  have := C04_reads_back [Seg.quoted q ps] ⟨hq, rfl, wf, trivial⟩
  simpa [renderSegs, denoteSegs, Seg.text, Seg.denote] using this

theorem C04_bare (ps : List Piece) (wf : bareWF [] ps) :
    unquoteValue true (renderPieces ps) = some (denotePieces ps) := by
  have := C04_reads_back [Seg.bare ps] ⟨wf, trivial⟩
  simpa [renderSegs, denoteSegs, Seg.text, Seg.denote] using this

/-- every NUL-free string has a wholly double-quoted spelling "…" (the repository's own quoter writes the inside), and it reads back -/
theorem C04_dq (s : Str) (hs : ∀ c ∈ s, c ≠ '\x00') :
    unquoteValue true ('"' :: quoteValue s ++ ['"']) = some s := by
  obtain ⟨ps, e, d, wf⟩ := quoteValue_pieces s hs
  rw [e, ← d]; exact C04_wholly_quoted '"' rfl ps wf

/-- every NUL-free string has a spelling that reads back as that string; the statement does not say that it is a documented one —
    the witness is the wholly double-quoted spelling of `C04_dq`, an instance of `C04_wholly_quoted` -/
theorem C04_has_spelling (s : Str) (hs : ∀ c ∈ s, c ≠ '\x00') : ∃ sp, unquoteValue true sp = some s :=
  ⟨_, C04_dq s hs⟩

/-- the documented escape forms qualify as escapes: the single letters of the table and `\\xHH` -/
theorem C04_escape_forms :
    (∀ p ∈ simpleTable, EscOK [p.1] p.2) ∧
    (∀ c : Char, c.toNat < 128 → c.toNat ≠ 0 → EscOK ['x', hexDigit (c.toNat / 16), hexDigit (c.toNat % 16)] c) :=
  ⟨escOK_simple, escOK_hex⟩

-- non-vacuity: `f "a 'b" 'x"' z\tw` is a well-formed spelling
example : segsWF [] [Seg.bare [.lit 'f', .lit ' '], Seg.quoted '"' [.lit 'a', .lit ' ', .lit '\'', .lit 'b'],
    Seg.bare [.lit ' '], Seg.quoted '\'' [.lit 'x', .lit '"'], Seg.bare [.lit ' ', .lit 'z', .esc ['t'] '\t', .lit 'w']] := by
  have : EscOK ['t'] '\t' := escOK_simple ('t', '\t') (by decide)
  simp [segsWF, bareWF, quotedWF, opensOK, endsWs, isQuote, denotePieces, Piece.char, this]

end P
