import QM.Generated.Tables
import QM.Lookup
import QM.Parser
/-! Constants that are hand-written inside the model, tied to the source by T1: the value extracted from the Rust source on every
    run equals the one the model uses.  A change of the constant in the code breaks the theorem (and with it the obligation of the
    properties that rest on it) even if no generated input happens to exercise it. -/
namespace Conform

/-! `parse_bool` (systemd_unit/mod.rs): by the three theorems together the model's spellings of true and false are exactly the
    ones listed in the source. -/
theorem parse_bool_true : ∀ x ∈ Gen.boolTrue, Cv.parseBool x = some true := by decide +kernel
theorem parse_bool_false : ∀ x ∈ Gen.boolFalse, Cv.parseBool x = some false := by decide +kernel
theorem parse_bool_other (x : List Char) (h1 : x ∉ Gen.boolTrue) (h2 : x ∉ Gen.boolFalse) : Cv.parseBool x = none := by
  simp only [Gen.boolTrue, Gen.boolFalse, List.mem_cons, List.not_mem_nil, or_false, not_or] at h1 h2
  simp [Cv.parseBool, Cv.s, h1, h2]

/-! `LINE_CONTINUATION_REPLACEMENT` (parser.rs) is one blank, and it is what `Parse.pv` joins a continued line with. -/
theorem line_continuation_replacement : Gen.lineContinuationReplacement = [' '] := by decide

theorem pv_joins_with_the_constant (ign : Nat) (acc r : List Char) :
    Parse.pv .bs ign acc ('\n' :: r) = Parse.pv .lc ign (Gen.lineContinuationReplacement.reverse ++ acc) r := by
  rw [line_continuation_replacement]
  simp [Parse.pv]

end Conform
