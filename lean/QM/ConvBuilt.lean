import QM.ConvShape
/-! What a converter does to the service it builds.

Every converter starts from `merge_from` of the user's unit, renames the unit's own section and [Quadlet] (`rename_section`), and
otherwise changes the service only through `add`, `set`, `prepend` (literal section and key, value escaped by `quote_value`) and
`add_raw` of a rendered command line under an `Exec…` key of [Service].  `Built M a b` says that `b` results from `a` by such writes,
those of `add` and `prepend` going to the (section, key) pairs in `M`.  What the properties say about a generated service — foreign
sections and unmanaged keys are kept, every key but the five written with `set` (`setPairs`) only grows (`Built.entriesOf_eq`,
`.keyEntries_eq`, `.sublist`), every entry is an old one or a write (`Built.mem`: so Exec lines are renderings and nothing holds a
newline) — is an invariant of each of the four writes, hence of `Built`, hence of every handler and converter, which only have to
be shown to be `Built`. -/
namespace Cv
open MM

def keyEntries (u : SUnit) (S k : Str) : Entries := (entriesOf u S).filter (fun e => e.1 == k)

/-- the (section, key) pairs some converter writes: default dependencies, source path, mount / unit dependencies,
    pod wiring; environment marker, kill mode, the Exec lines, delegate, type / notify, syslog identifier, one-shot
    settings, working directory, the pod's restart policy and PID file -/
def managed : List (Str × Str) :=
  [(s "Unit", s "Wants"), (s "Unit", s "After"), (s "Unit", s "SourcePath"), (s "Unit", s "RequiresMountsFor"),
   (s "Unit", s "Requires"), (s "Unit", s "BindsTo"), (s "Unit", s "Before"),
   (s "Service", s "Environment"), (s "Service", s "KillMode"), (s "Service", s "ExecStart"), (s "Service", s "ExecStartPre"),
   (s "Service", s "ExecStop"), (s "Service", s "ExecStopPost"), (s "Service", s "Delegate"), (s "Service", s "Type"),
   (s "Service", s "NotifyAccess"), (s "Service", s "SyslogIdentifier"), (s "Service", s "RemainAfterExit"),
   (s "Service", s "WorkingDirectory"), (s "Service", s "Restart"), (s "Service", s "PIDFile")]

/-- the settings written with `set`: the generator replaces the last value of these -/
def setPairs : List (Str × Str) :=
  [(s "Service", s "KillMode"), (s "Service", s "Type"), (s "Service", s "NotifyAccess"),
   (s "Service", s "SyslogIdentifier"), (s "Service", s "RemainAfterExit")]

def execKeys : List Str := [s "ExecStart", s "ExecStartPre", s "ExecStartPost", s "ExecStop", s "ExecStopPost", s "ExecReload", s "ExecCondition"]

/-- the pairs written with `add` by the handlers and the converters proper (`After` is also prepended) … -/
def addPairs : List (Str × Str) :=
  [(s "Unit", s "After"), (s "Unit", s "SourcePath"), (s "Unit", s "RequiresMountsFor"), (s "Unit", s "Requires"),
   (s "Unit", s "BindsTo"), (s "Service", s "Environment"), (s "Service", s "Delegate"), (s "Service", s "Type"),
   (s "Service", s "NotifyAccess"), (s "Service", s "WorkingDirectory"), (s "Service", s "Restart"), (s "Service", s "PIDFile")]
/-- … and the two more that only the default dependencies (`Wants`) and a pod's member loop write -/
def allPairs : List (Str × Str) := (s "Unit", s "Wants") :: (s "Unit", s "Before") :: addPairs

/-- the keys under which a rendered command line is stored with `add_raw` -/
def rawKeys : List Str := [s "ExecStart", s "ExecStartPre", s "ExecStop", s "ExecStopPost"]

/-- membership in one of the literal lists above, read off the list: no string is compared -/
macro "mem_lit" : tactic =>
  `(tactic| simp only [addPairs, allPairs, setPairs, rawKeys, List.mem_cons, true_or, or_true])

inductive Built (M : List (Str × Str)) : SUnit → SUnit → Prop
  | refl (a : SUnit) : Built M a a
  | addS {a b : SUnit} (sec key : String) (v : Str) (h : Built M a b) (hk : (s sec, s key) ∈ M := by mem_lit) :
      Built M a (addS b sec key v)
  | prependS {a b : SUnit} (sec key : String) (v : Str) (h : Built M a b) (hk : (s sec, s key) ∈ M := by mem_lit) :
      Built M a (prependS b sec key v)
  | setS {a b : SUnit} (sec key : String) (v : Str) (h : Built M a b) (hk : (s sec, s key) ∈ setPairs := by mem_lit) :
      Built M a (setS b sec key v)
  | raw {a b : SUnit} (key : String) (args : List Str) (h : Built M a b) (hk : s key ∈ rawKeys := by mem_lit) :
      Built M a (addEntry b (s "Service") (s key) (P.quoteWords args))

/-! Facts about these tables are read off them: `List.forall_mem_cons` makes one goal per member of the first list, which is then
    found in the second (as by `mem_lit`) or compared with its members, as string literals (`s_inj`). -/

theorem s_inj {a b : String} : s a = s b ↔ a = b := String.toList_inj

theorem setPairs_service : ∀ p ∈ setPairs, p.1 = s "Service" := by
  simp only [setPairs, List.forall_mem_cons, List.not_mem_nil, false_imp_iff, implies_true, and_self]

theorem written_not_exec : (∀ p ∈ allPairs, p.2 ∉ execKeys) ∧ ∀ p ∈ setPairs, p.2 ∉ execKeys := by
  simp only [allPairs, addPairs, setPairs, List.forall_mem_cons]
  simp only [execKeys, List.mem_cons, List.not_mem_nil, s_inj, String.reduceEq, or_self, not_false_eq_true, and_self, false_imp_iff,
    implies_true]

theorem allPairs_unit_or_service : ∀ p ∈ allPairs, p.1 = s "Unit" ∨ p.1 = s "Service" := by
  simp only [allPairs, addPairs, List.forall_mem_cons, true_or, or_true, List.not_mem_nil, false_imp_iff, implies_true, and_self]

theorem written_managed :
    (∀ p ∈ allPairs, p ∈ managed) ∧ (∀ p ∈ setPairs, p ∈ managed) ∧ ∀ k ∈ rawKeys, (s "Service", k) ∈ managed := by
  simp only [allPairs, addPairs, setPairs, rawKeys, List.forall_mem_cons]
  simp only [managed, List.mem_cons, true_or, or_true, List.not_mem_nil, false_imp_iff, implies_true, and_self]

theorem managed_noNL : ∀ p ∈ managed, '\n' ∉ p.2 := by decide +kernel

theorem rawKeys_not_set : ∀ k ∈ rawKeys, (s "Service", k) ∉ setPairs := by
  simp only [rawKeys, List.forall_mem_cons]
  simp only [setPairs, List.mem_cons, List.not_mem_nil, Prod.mk.injEq, s_inj, String.reduceEq, and_false, or_self, not_false_eq_true,
    and_self, false_imp_iff, implies_true]

namespace Built
variable {M : List (Str × Str)} {a b c : SUnit}

theorem after_of_subset {M' : List (Str × Str)} (h₂ : Built M b c) (hM : ∀ p ∈ M, p ∈ M') (h₁ : Built M' a b) : Built M' a c := by
  induction h₂ with
  | refl => exact h₁
  | addS sec key v _ hk ih => exact ih.addS sec key v (hM _ hk)
  | prependS sec key v _ hk ih => exact ih.prependS sec key v (hM _ hk)
  | setS sec key v _ hk ih => exact ih.setS sec key v hk
  | raw key args _ hk ih => exact ih.raw key args hk

theorem mono {M' : List (Str × Str)} (h : Built M a b) (hM : ∀ p ∈ M, p ∈ M') : Built M' a b := h.after_of_subset hM (.refl a)

theorem all (h : Built addPairs a b) : Built allPairs a b :=
  h.mono fun _ hp => List.mem_cons_of_mem _ (List.mem_cons_of_mem _ hp)

/-! The steps — the constructors, `after`, `addRawExec`, `setS_if` — take what was built before as their last explicit argument
    (the membership behind it is found by `mem_lit`), so that a chain `step₃ <| step₂ <| step₁` is elaborated from the result
    backwards: the hypotheses about the later steps say what the earlier ones must have written. -/

theorem after (h₂ : Built M b c) (h₁ : Built M a b) : Built M a c := h₂.after_of_subset (fun _ hp => hp) h₁

theorem addRawExec {k : String} {args : List Str} (hc : Cv.addRawExec b k args = .ok c) (h : Built M a b)
    (hk : s k ∈ rawKeys := by mem_lit) : Built M a c := by
  rw [addRawExec_ok _ _ _ _ hc]; exact h.raw k args hk

theorem ite {p : Prop} [Decidable p] (h₁ : p → Built M a b) (h₂ : ¬p → Built M a c) : Built M a (if p then b else c) := by
  split
  · exact h₁ ‹_›
  · exact h₂ ‹_›

theorem setS_if (p : Prop) [Decidable p] (sec key : String) (v : Str) (h : Built M a b)
    (hk : (s sec, s key) ∈ setPairs := by mem_lit) : Built M a (if p then Cv.setS b sec key v else b) :=
  .ite (fun _ => .setS sec key v h hk) (fun _ => h)

theorem dependsOn (f : Str) : Built addPairs a (Cv.addS (Cv.addS a "Unit" "Requires" f) "Unit" "After" f) :=
  .addS _ _ _ <| .addS _ _ _ <| .refl _

end Built

theorem keyEntries_congr {a b : SUnit} {S : Str} (h : entriesOf a S = entriesOf b S) (k : Str) : keyEntries a S k = keyEntries b S k := by
  unfold keyEntries; rw [h]

theorem keyEntries_addEntry (u : SUnit) (sec key raw S k : Str) :
    keyEntries (addEntry u sec key raw) S k
      = if S = sec ∧ key = k then keyEntries u S k ++ [(key, raw)] else keyEntries u S k := by
  unfold keyEntries
  rw [entriesOf_addEntry]
  by_cases hS : S = sec
  · subst hS
    by_cases hk : key = k
    · simp [hk]
    · simp [hk]
  · simp [hS]

theorem keyEntries_prependEntry (u : SUnit) (sec key raw S k : Str) :
    keyEntries (prependEntry u sec key raw) S k
      = if S = sec ∧ key = k then (key, raw) :: keyEntries u S k else keyEntries u S k := by
  unfold keyEntries
  rw [entriesOf_prepend]
  by_cases hS : S = sec
  · subst hS
    by_cases hk : key = k
    · simp [hk]
    · simp [hk]
  · simp [hS]

theorem keyEntries_setEntry_ne (u : SUnit) (sec key raw S k : Str) (h : ¬(S = sec ∧ key = k)) :
    keyEntries (setEntry u sec key raw) S k = keyEntries u S k := by
  unfold keyEntries
  rw [entriesOf_setEntry]
  split
  · rename_i hS
    subst hS
    exact filter_setIn_ne _ _ _ _ fun e => h ⟨rfl, e.symm⟩
  · rfl

theorem sublist_addEntry (u : SUnit) (sec key raw S k : Str) :
    (keyEntries u S k).Sublist (keyEntries (addEntry u sec key raw) S k) := by
  rw [keyEntries_addEntry]
  split
  · exact List.sublist_append_left _ _
  · exact .refl _

theorem sublist_prependEntry (u : SUnit) (sec key raw S k : Str) :
    (keyEntries u S k).Sublist (keyEntries (prependEntry u sec key raw) S k) := by
  rw [keyEntries_prependEntry]
  split
  · exact List.sublist_cons_self _ _
  · exact .refl _

theorem mem_write {u : SUnit} {sec key raw S : Str} {e : Str × Str}
    (h : e ∈ entriesOf (addEntry u sec key raw) S ∨ e ∈ entriesOf (prependEntry u sec key raw) S ∨
      e ∈ entriesOf (setEntry u sec key raw) S) : e ∈ entriesOf u S ∨ S = sec ∧ e = (key, raw) := by
  rw [entriesOf_addEntry, entriesOf_prepend, entriesOf_setEntry] at h
  by_cases hS : S = sec
  · subst hS
    simp only [if_true, List.mem_append, List.mem_cons, List.not_mem_nil, or_false] at h
    rcases h with (h | h) | (h | h) | h
    · exact .inl h
    · exact .inr ⟨rfl, h⟩
    · exact .inr ⟨rfl, h⟩
    · exact .inl h
    · exact (mem_setIn _ _ _ _ h).imp_right fun h => ⟨rfl, h⟩
  · simp only [if_neg hS, or_self] at h
    exact .inl h

/-- what the generator writes into section `S`: a value escaped by `quote_value` under one of the pairs in `M` or in
    `setPairs`, or, in [Service], a rendered command line under one of `rawKeys` -/
inductive Written (M : List (Str × Str)) (S : Str) (e : Str × Str) : Prop
  | quoted (v : Str) : (S, e.1) ∈ M ∨ (S, e.1) ∈ setPairs → e.2 = P.quoteValue v → Written M S e
  | raw (args : List Str) : S = s "Service" → e.1 ∈ rawKeys → e.2 = P.quoteWords args → Written M S e

/-- `add`, `set` and `prepend` never write an Exec key; `add_raw` only stores renderings -/
theorem Written.rendered {M : List (Str × Str)} {S : Str} {e : Str × Str} (w : Written M S e) (hM : ∀ p ∈ M, p.2 ∉ execKeys)
    (hx : e.1 ∈ execKeys) : ∃ cmd, e.2 = P.quoteWords cmd := by
  cases w with
  | quoted v hk _ => exact absurd hx (hk.elim (hM _) (written_not_exec.2 _))
  | raw args _ _ h2 => exact ⟨args, h2⟩

def ExecRendered (a b : SUnit) : Prop :=
  ∀ e ∈ entriesOf b (s "Service"), e.1 ∈ execKeys → e ∈ entriesOf a (s "Service") ∨ ∃ cmd, e.2 = P.quoteWords cmd

namespace Built
variable {M : List (Str × Str)} {a b : SUnit}

theorem entriesOf_eq (h : Built M a b) {S : Str} (hM : ∀ p ∈ M, S ≠ p.1) (hS : S ≠ s "Service") :
    entriesOf b S = entriesOf a S := by
  induction h with
  | refl => rfl
  | addS sec key v _ hk ih => rw [entriesOf_addS, if_neg (hM _ hk), ih]
  | prependS sec key v _ hk ih => rw [entriesOf_prependS, if_neg (hM _ hk), ih]
  | setS sec key v _ hk ih => rw [entriesOf_setS_ne _ _ _ _ _ fun e => hS (e.trans (setPairs_service _ hk)), ih]
  | raw key args _ _ ih => rw [entriesOf_addEntry, if_neg hS, ih]

theorem keyEntries_eq (h : Built M a b) {S k : Str} (hM : (S, k) ∉ M) (hs : (S, k) ∉ setPairs)
    (hr : S = s "Service" → k ∉ rawKeys) : keyEntries b S k = keyEntries a S k := by
  induction h with
  | refl => rfl
  | addS sec key v _ hk ih =>
    rw [Cv.addS, keyEntries_addEntry, if_neg (fun e => hM (by rw [e.1, ← e.2]; exact hk)), ih]
  | prependS sec key v _ hk ih =>
    rw [Cv.prependS, keyEntries_prependEntry, if_neg (fun e => hM (by rw [e.1, ← e.2]; exact hk)), ih]
  | setS sec key v _ hk ih =>
    rw [Cv.setS, keyEntries_setEntry_ne _ _ _ _ _ _ (fun e => hs (by rw [e.1, ← e.2]; exact hk)), ih]
  | raw key args _ hk ih =>
    rw [keyEntries_addEntry, if_neg (fun (e : S = s "Service" ∧ s key = k) => hr e.1 (e.2 ▸ hk)), ih]

theorem keyEntries_eq_outside {L : List (Str × Str)} (h : Built M a b)
    (hL : (∀ p ∈ M, p ∈ L) ∧ (∀ p ∈ setPairs, p ∈ L) ∧ ∀ k ∈ rawKeys, (s "Service", k) ∈ L) {S k : Str} (hk : (S, k) ∉ L) :
    keyEntries b S k = keyEntries a S k :=
  h.keyEntries_eq (fun hp => hk (hL.1 _ hp)) (fun hp => hk (hL.2.1 _ hp)) fun e hr => hk (e ▸ hL.2.2 _ hr)

theorem sublist (h : Built M a b) {S k : Str} (hs : (S, k) ∉ setPairs) : (keyEntries a S k).Sublist (keyEntries b S k) := by
  induction h with
  | refl => exact .refl _
  | addS sec key v _ _ ih => exact ih.trans (sublist_addEntry ..)
  | prependS sec key v _ _ ih => exact ih.trans (sublist_prependEntry ..)
  | setS sec key v _ hk ih =>
    rw [Cv.setS, keyEntries_setEntry_ne _ _ _ _ _ _ (fun e => hs (by rw [e.1, ← e.2]; exact hk))]
    exact ih
  | raw key args _ _ ih => exact ih.trans (sublist_addEntry ..)

theorem mem (h : Built M a b) {S : Str} {e : Str × Str} (he : e ∈ entriesOf b S) : e ∈ entriesOf a S ∨ Written M S e := by
  induction h with
  | refl => exact .inl he
  | addS sec key v _ hk ih =>
    rcases mem_write (.inl he) with h | ⟨rfl, rfl⟩
    · exact ih h
    · exact .inr (.quoted v (.inl hk) rfl)
  | prependS sec key v _ hk ih =>
    rcases mem_write (.inr (.inl he)) with h | ⟨rfl, rfl⟩
    · exact ih h
    · exact .inr (.quoted v (.inl hk) rfl)
  | setS sec key v _ hk ih =>
    rcases mem_write (.inr (.inr he)) with h | ⟨rfl, rfl⟩
    · exact ih h
    · exact .inr (.quoted v (.inr hk) rfl)
  | raw key args _ hk ih =>
    rcases mem_write (.inl he) with h | ⟨rfl, rfl⟩
    · exact ih h
    · exact .inr (.raw args rfl hk rfl)

theorem execRendered (h : Built M a b) (hM : ∀ p ∈ M, p.2 ∉ execKeys) : ExecRendered a b := fun _ he hx =>
  (h.mem he).imp_right (·.rendered hM hx)

end Built
end Cv
