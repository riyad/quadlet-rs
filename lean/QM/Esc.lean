import QM.Generated.Tables
/-! C-style escapes after a backslash.  There is one decoder, `decode cfg`: systemd's `cunescape_one` (`specCfg`) and the
    `parse_escape_sequence` of split.rs (`implCfg`; that of quoted.rs is `quotedCfg`, QM/Unquote.lean) are configurations of it. -/
namespace P
abbrev Str := List Char

def isSep (c : Char) : Bool := c == ' ' || c == '\t' || c == '\n' || c == '\r'
def isQuote (c : Char) : Bool := c == '"' || c == '\''

def unhex (c : Char) : Option Nat :=
  if '0' ≤ c ∧ c ≤ '9' then some (c.toNat - 48)
  else if 'a' ≤ c ∧ c ≤ 'f' then some (c.toNat - 87)
  else if 'A' ≤ c ∧ c ≤ 'F' then some (c.toNat - 55)
  else none
def unoct (c : Char) : Option Nat := if '0' ≤ c ∧ c ≤ '7' then some (c.toNat - 48) else none

/-- systemd's cunescape_one single-letter escapes (frozen specification table) -/
def simpleTable : List (Char × Char) :=
  [('a','\x07'),('b','\x08'),('f','\x0c'),('n','\n'),('r','\r'),('t','\t'),('v','\x0b'),('\\','\\'),('"','"'),('\'','\''),('s',' ')]

def readDigits (dig : Char → Option Nat) (radix : Nat) : Nat → Nat → Str → Option (Nat × Str)
  | 0, v, r => some (v, r)
  | _+1, _, [] => none
  | n+1, v, c :: r => match dig c with
    | none => none
    | some d => readDigits dig radix n (v * radix + d) r

theorem readDigits_length {dig radix n v s v' r} (h : readDigits dig radix n v s = some (v', r)) :
    r.length + n = s.length := by
  fun_induction readDigits dig radix n v s with
  | case1 => cases h; rfl
  | case2 | case3 => cases h
  | case4 n v c r' d hd ih => have := ih h; simp only [List.length_cons]; omega

def validScalar (n : Nat) : Bool := n < 0xd800 || (0xdfff < n && n < 0x110000)

/-- numeric escape kinds: after which char, how many digits, which radix, does the first digit
    belong to the number (octal) -/
inductive NumKind | x | u | U | oct deriving DecidableEq

def numKindOf (c : Char) : Option NumKind :=
  if c == 'x' then some .x else if c == 'u' then some .u else if c == 'U' then some .U
  else if ('0' ≤ c ∧ c ≤ '7') then some .oct else none

def readNum (k : NumKind) (c : Char) (r : Str) : Option (Nat × Str) :=
  match k with
  | .x => readDigits unhex 16 2 0 r
  | .u => readDigits unhex 16 4 0 r
  | .U => readDigits unhex 16 8 0 r
  | .oct => readDigits unoct 8 3 0 (c :: r)

theorem readNum_length {k c r v r'} (h : readNum k c r = some (v, r')) : r'.length < (c :: r).length := by
  cases k <;> have := readDigits_length h <;> simp only [List.length_cons] at this ⊢ <;> omega

/-- a decoder is given by which numeric values it accepts and what it does with unknown letters -/
structure DecCfg where
  tbl : List (Char × Char)
  valid : NumKind → Nat → Bool
  unknown : Char → Option Char

def decode (cfg : DecCfg) : Str → Option (Char × Str)
  | [] => none
  | c :: r =>
    match cfg.tbl.lookup c with
    | some d => some (d, r)
    | none =>
      match numKindOf c with
      | some k =>
        match readNum k c r with
        | some (v, r') => if cfg.valid k v then some (Char.ofNat v, r') else none
        | none => none
      | none => (cfg.unknown c).map (·, r)

theorem decode_length {cfg s d r} (h : decode cfg s = some (d, r)) : r.length < s.length := by
  cases s with
  | nil => cases h
  | cons c t =>
    -- the rest is `t`, except after a numeric escape, where it is what `readNum` leaves
    rw [decode] at h
    split at h
    · cases h; exact Nat.lt_succ_self _
    · split at h
      · split at h
        · split at h <;> cases h
          exact readNum_length ‹_›
        · cases h
      · obtain ⟨_, _, h⟩ := Option.map_eq_some_iff.mp h
        cases h; exact Nat.lt_succ_self _

/-- systemd's cunescape_one restricted to results representable as the same text in Rust: `\xHH` and octal give a *byte*,
    which from 0x80 on is not the character U+00HH that the Rust decoders produce (KF-C05-1, Props/C05.lean) -/
def specCfg : DecCfg where
  tbl := simpleTable
  valid k v := v != 0 && (match k with | .x | .oct => v < 128 | .u | .U => validScalar v)
  unknown _ := none

/-- Rust parse_escape_sequence (split.rs flavour); the single-letter table is the one extracted from split.rs -/
def implCfg : DecCfg where
  tbl := Gen.unescSplit
  valid _ v := v != 0 && validScalar v
  unknown c := some c

end P
