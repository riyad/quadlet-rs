import QM.Quote
namespace P

/-- quoted.rs flavour of the escape decoder: unknown escape characters are an error -/
def quotedCfg : DecCfg where
  tbl := Gen.unescQuoted
  valid _ v := v != 0 && validScalar v
  unknown _ := none

def endsWs (acc : Str) : Bool := match acc with
  | [] => false
  | c :: _ => c == ' ' || c == '\t' || c == '\n'

/-- Quoted::parse_and_unquote after the D2 and D12d repairs (`fixed = true`); `fixed = false` is the pinned quote rule.
    acc is the decoded text so far, reversed. none = Err -/
def unq (fixed : Bool) (q : Option Char) (acc : Str) (s : Str) : Option Str :=
  match s with
  | [] => some acc.reverse
  | c :: r =>
    if c == '\x00' then none   -- D12d: a literal NUL is rejected
    else if isQuote c && (!fixed || q.isNone) && (acc.isEmpty || endsWs acc) then unq fixed (some c) acc r
    else if c == '\\' then
      match h : decode quotedCfg r with
      | some (d, r') => unq fixed q (d :: acc) r'
      | none => none
    else if q == some c then unq fixed none acc r
    else unq fixed q (c :: acc) r
termination_by s.length
decreasing_by
  all_goals simp_wf
  all_goals first | omega | (have := decode_length h; omega)

def unquoteValue (fixed : Bool) (s : Str) : Option Str := unq fixed none [] s

#eval (unquoteValue false "\"sh -c 'exit 1'\"".toList).map String.ofList   -- pinned: sh -c exit 1"
#eval (unquoteValue true "\"sh -c 'exit 1'\"".toList).map String.ofList    -- repaired
#eval (unquoteValue true "foo='bar' \"bar=baz\" \\x41\\u00e9".toList).map String.ofList

/-- the defect D2, as a theorem about the quote rule before its repair (`fixed = false`):  "a 'b"  reads as  a b"  -/
theorem C04_counterexample :
    unquoteValue false ['"', 'a', ' ', '\'', 'b', '"'] = some ['a', ' ', 'b', '"'] := by
  simp [unquoteValue, unq, isQuote, endsWs]

theorem C04_repaired_example :
    unquoteValue true ['"', 'a', ' ', '\'', 'b', '"'] = some ['a', ' ', '\'', 'b'] := by
  simp [unquoteValue, unq, isQuote, endsWs]

end P
