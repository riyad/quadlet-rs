import QM.Proc
/-! The conversion loop of `process` as a *local* system in the sense of QM/Refine.lean:
    every conversion reads the name table only at the names in its static read set `readsOf`. -/
namespace Cv
open MM

abbrev Tab := Str → Option Info

/-! `sys b` through its fields.  Comparing `(sys b).reads u` with `readsOf u` by unification unfolds `readsOf` down to the file-name
    functions before it looks into `sys` (millions of heartbeats per occurrence): rewrite with these first. -/
theorem sys_name (b : Bool) : (sys b).name = QUnit.name := by simp only [sys]
theorem sys_prio (b : Bool) (q : QUnit) : (sys b).prio q = prio q.ty := by simp only [sys]
theorem sys_prefill (b : Bool) : (sys b).prefill = prefill := by simp only [sys]
theorem sys_publish (b : Bool) : (sys b).publish = publishOf b := by simp only [sys]
theorem sys_reads (b : Bool) : (sys b).reads = readsOf := by simp only [sys]
theorem sys_out (b : Bool) (q : QUnit) (t : Tab) (a : List Str) : (sys b).out q t a = convOut b t a q := by simp only [sys]
theorem sys_link (b : Bool) (q : QUnit) (t : Tab) : (sys b).link q t = linkOf b q t := by simp only [sys]

def AgreeOn (L : List Str) (t₁ t₂ : Tab) : Prop := ∀ n ∈ L, t₁ n = t₂ n

theorem AgreeOn.append {L L' : List Str} {t₁ t₂ : Tab} : AgreeOn (L ++ L') t₁ t₂ ↔ AgreeOn L t₁ t₂ ∧ AgreeOn L' t₁ t₂ := by
  simp only [AgreeOn, List.mem_append, or_imp, forall_and]

theorem ite_agree {α : Type} {c : Prop} [Decidable c] {L₁ L₂ : List Str} {t₁ t₂ : Tab} {a₁ a₂ b₁ b₂ : α}
    (h : AgreeOn (if c then L₁ else L₂) t₁ t₂) (ha : AgreeOn L₁ t₁ t₂ → a₁ = a₂) (hb : AgreeOn L₂ t₁ t₂ → b₁ = b₂) :
    (if c then a₁ else b₁) = if c then a₂ else b₂ := by
  split
  · rw [if_pos ‹c›] at h; exact ha h
  · rw [if_neg ‹¬c›] at h; exact hb h

theorem foldlM_congr {α β : Type} (f g : β → α → R β) (l : List α) (h : ∀ x ∈ l, ∀ acc, f acc x = g acc x) :
    ∀ init, l.foldlM f init = l.foldlM g init := by
  induction l with
  | nil => exact fun _ => rfl
  | cons x xs ih =>
    intro init
    rw [List.foldlM_cons, List.foldlM_cons, h x List.mem_cons_self init,
      funext (ih fun y hy => h y (List.mem_cons_of_mem _ hy))]

theorem baseCmd_congr (b : Bool) (t₁ t₂ : Tab) (u : SUnit) (sec : Str) :
    baseCmd (envOf b t₁) u sec = baseCmd (envOf b t₂) u sec := rfl

/-! Congruence in the name table.  The handlers are compared as functions of the service they are given, so that the converter
    lemmas rewrite with them under the binders of a `do` block. -/

theorem handleImageSource_congr (b : Bool) (t₁ t₂ : Tab) (name : Str) (h : AgreeOn (imageRefs name) t₁ t₂) :
    handleImageSource (envOf b t₁) name = handleImageSource (envOf b t₂) name := by
  funext svc
  unfold handleImageSource
  split
  · rename_i hc
    have : t₁ name = t₂ name := h name (by simp [imageRefs, hc])
    simp only [envOf, this]
  · rfl

theorem handleStorageSource_congr (b : Bool) (t₁ t₂ : Tab) (unitPath : Str) (svc : SUnit) (source : Str) (ci : Bool)
    (h : ∀ n, storageRef unitPath source ci = some n → t₁ n = t₂ n) :
    handleStorageSource (envOf b t₁) unitPath svc source ci = handleStorageSource (envOf b t₂) unitPath svc source ci := by
  unfold handleStorageSource
  unfold storageRef at h
  simp only at h ⊢
  generalize (if source.head? == some '.' then absFromUnit unitPath source else source) = src at h ⊢
  by_cases h1 : (src.head? == some '/') = true
  · simp only [h1, if_true]
  · by_cases h2 : (endsWith src (s ".volume") || (ci && endsWith src (s ".image"))) = true
    · simp only [h1, h2, if_true, envOf, h src (by simp only [h1, h2, if_true]; simp)]
    · simp only [h1, h2, Bool.false_eq_true, if_false]

theorem handleVolumes_congr (b : Bool) (t₁ t₂ : Tab) (unitPath : Str) (u : SUnit) (sec : Str)
    (h : AgreeOn (volumeRefs unitPath u sec) t₁ t₂) :
    handleVolumes (envOf b t₁) unitPath u sec = handleVolumes (envOf b t₂) unitPath u sec := by
  funext svc
  unfold handleVolumes
  apply foldlM_congr
  intro v hv acc
  unfold volumeStep
  simp only [handleStorageSource_congr b t₁ t₂ unitPath acc.2 _ false
    fun n hn => h n (List.mem_filterMap.mpr ⟨v, hv, hn⟩)]

theorem networkRef_congr (b : Bool) (t₁ t₂ : Tab) (name : Str) (svc : SUnit)
    (h : (endsWith name (s ".network") || endsWith name (s ".container")) = true → t₁ name = t₂ name) :
    networkRef (envOf b t₁) name svc = networkRef (envOf b t₂) name svc := by
  unfold networkRef
  split
  · rename_i hc
    simp only [envOf, h hc]
  · rfl

theorem handleNetworks_congr (b : Bool) (t₁ t₂ : Tab) (u : SUnit) (sec : Str) (h : AgreeOn (networkRefs u sec) t₁ t₂) :
    handleNetworks (envOf b t₁) u sec = handleNetworks (envOf b t₂) u sec := by
  funext svc
  unfold handleNetworks
  apply foldlM_congr
  intro nw hnw acc
  unfold networkStep
  by_cases hne : nw.isEmpty = true
  · rw [if_pos hne, if_pos hne]
  · dsimp only
    rw [networkRef_congr b t₁ t₂ (netNameOf nw) acc.2 fun hc =>
      h _ (List.mem_filterMap.mpr ⟨nw, hnw, by rw [if_neg hne, if_pos hc]⟩)]

theorem mountTokStep_congr (b : Bool) (t₁ t₂ : Tab) (unitPath : Str) (acc : List Str × SUnit) (t : Str)
    (h : ∀ n, mountTokRef unitPath t = some n → t₁ n = t₂ n) :
    mountTokStep (envOf b t₁) unitPath acc t = mountTokStep (envOf b t₂) unitPath acc t := by
  unfold mountTokStep
  split
  · rename_i hc
    split
    · rename_i a v hs
      simp only [handleStorageSource_congr b t₁ t₂ unitPath acc.2 v true
        fun n hn => h n (by simp only [mountTokRef, hc, if_true, hs]; exact hn)]
    · rfl
  · rfl

theorem handleMounts_congr (b : Bool) (t₁ t₂ : Tab) (unitPath : Str) (u : SUnit) (sec : Str)
    (h : AgreeOn (mountRefs unitPath u sec) t₁ t₂) (init : List Str × SUnit) :
    (lookupAllArgs u sec (s "Mount")).foldlM (mountsStep (envOf b t₁) unitPath) init
      = (lookupAllArgs u sec (s "Mount")).foldlM (mountsStep (envOf b t₂) unitPath) init := by
  apply foldlM_congr
  intro m hm acc
  unfold mountsStep resolveMount
  cases hf : findMountType m with
  | none => rfl
  | some r =>
    cases r with
    | error e => rfl
    | ok p =>
      simp only
      rw [foldlM_congr (mountTokStep (envOf b t₁) unitPath) (mountTokStep (envOf b t₂) unitPath) p.2 fun t ht acc =>
        mountTokStep_congr b t₁ t₂ unitPath acc t fun n hn =>
          h n (List.mem_flatMap.mpr ⟨m, hm, by simp only [hf]; exact List.mem_filterMap.mpr ⟨t, ht, hn⟩⟩)]

theorem handlePod_congr (b : Bool) (t₁ t₂ : Tab) (u : SUnit) (sec : Str) (h : AgreeOn (podRefs u sec) t₁ t₂) :
    handlePod (envOf b t₁) u sec = handlePod (envOf b t₂) u sec := by
  funext svc own
  unfold handlePod
  cases hp : lookup u sec (s "Pod") with
  | none => rfl
  | some pod =>
    have : t₁ pod = t₂ pod := h pod (by simp [podRefs, hp])
    simp only [envOf, this]


theorem info_envOf (b : Bool) (t : Tab) : (envOf b t).info = t := rfl
theorem pathExists_congr (b : Bool) (t₁ t₂ : Tab) : (envOf b t₁).pathExists = (envOf b t₂).pathExists := rfl

theorem fromContainer_congr (b : Bool) (t₁ t₂ : Tab) (path : Str) (u : SUnit)
    (h : AgreeOn ([fileName path] ++ imageRefs ((lookup u (s "Container") (s "Image")).getD []) ++ networkRefs u (s "Container")
      ++ volumeRefs path u (s "Container") ++ mountRefs path u (s "Container") ++ podRefs u (s "Container")) t₁ t₂) :
    fromContainer (envOf b t₁) path u = fromContainer (envOf b t₂) path u := by
  simp only [AgreeOn.append] at h
  obtain ⟨⟨⟨⟨⟨h0, h1⟩, h2⟩, h3⟩, h4⟩, h5⟩ := h
  have h0 : (envOf b t₁).info (fileName path) = (envOf b t₂).info (fileName path) := h0 _ (List.mem_singleton_self _)
  unfold fromContainer
  simp only [h0, handleImageSource_congr b t₁ t₂ _ h1, handleNetworks_congr b t₁ t₂ u _ h2, handleVolumes_congr b t₁ t₂ path u _ h3,
    handleMounts_congr b t₁ t₂ path u _ h4, handlePod_congr b t₁ t₂ u _ h5, baseCmd_congr b t₁ t₂]
  rfl


theorem fromImage_congr (b : Bool) (t₁ t₂ : Tab) (path : Str) (u : SUnit) :
    fromImage (envOf b t₁) path u = fromImage (envOf b t₂) path u := rfl

theorem fromNetwork_congr (b : Bool) (t₁ t₂ : Tab) (path : Str) (u : SUnit) :
    fromNetwork (envOf b t₁) path u = fromNetwork (envOf b t₂) path u := rfl

theorem fromVolume_congr (b : Bool) (t₁ t₂ : Tab) (path : Str) (u : SUnit)
    (h : AgreeOn (match lookup u (s "Volume") (s "Image") with | some img => imageRefs img | none => []) t₁ t₂) :
    fromVolume (envOf b t₁) path u = fromVolume (envOf b t₂) path u := by
  unfold fromVolume volumeOpts
  cases hi : lookup u (s "Volume") (s "Image") with
  | none => simp only [hi, baseCmd_congr b t₁ t₂]
  | some img => simp only [hi, handleImageSource_congr b t₁ t₂ img (by rw [hi] at h; exact h), baseCmd_congr b t₁ t₂]

theorem fromKube_congr (b : Bool) (t₁ t₂ : Tab) (path : Str) (u : SUnit)
    (h : AgreeOn (networkRefs u (s "Kube")) t₁ t₂) :
    fromKube (envOf b t₁) path u = fromKube (envOf b t₂) path u := by
  unfold fromKube
  simp only [handleNetworks_congr b t₁ t₂ u _ h, baseCmd_congr b t₁ t₂]

theorem fromPod_congr (b : Bool) (t₁ t₂ : Tab) (path : Str) (u : SUnit) (started : List Str)
    (h : AgreeOn (networkRefs u (s "Pod") ++ volumeRefs path u (s "Pod")) t₁ t₂) :
    fromPod (envOf b t₁) path u started = fromPod (envOf b t₂) path u started := by
  unfold fromPod
  simp only [handleNetworks_congr b t₁ t₂ u _ (AgreeOn.append.mp h).1, handleVolumes_congr b t₁ t₂ path u _ (AgreeOn.append.mp h).2,
    baseCmd_congr b t₁ t₂]

theorem fromBuild_congr (b : Bool) (t₁ t₂ : Tab) (path : Str) (u : SUnit)
    (h : AgreeOn ([fileName path] ++ networkRefs u (s "Build") ++ volumeRefs path u (s "Build")) t₁ t₂) :
    fromBuild (envOf b t₁) path u = fromBuild (envOf b t₂) path u := by
  simp only [AgreeOn.append] at h
  obtain ⟨⟨h0, h2⟩, h3⟩ := h
  have h0 : (envOf b t₁).info (fileName path) = (envOf b t₂).info (fileName path) := h0 _ (List.mem_singleton_self _)
  unfold fromBuild
  simp only [h0, handleNetworks_congr b t₁ t₂ u _ h2, handleVolumes_congr b t₁ t₂ path u _ h3, baseCmd_congr b t₁ t₂]

theorem convOut_congr (b : Bool) (t₁ t₂ : Tab) (started : List Str) (q : QUnit) (h : AgreeOn (readsOf q) t₁ t₂) :
    convOut b t₁ started q = convOut b t₂ started q := by
  unfold convOut
  unfold readsOf at h
  simp only at h ⊢
  -- `convOut` and `readsOf` branch on the unit type alike
  exact ite_agree h (fun _ => by rw [fromImage_congr b t₁ t₂]) fun h =>
    ite_agree h (fun h => by rw [fromVolume_congr b t₁ t₂ _ _ h]) fun h =>
    ite_agree h (fun _ => by rw [fromNetwork_congr b t₁ t₂]) fun h =>
    ite_agree h (fun h => by rw [fromBuild_congr b t₁ t₂ _ _ h]) fun h =>
    ite_agree h (fun h => by rw [fromKube_congr b t₁ t₂ _ _ h]) fun h =>
    ite_agree h (fun h => by rw [fromPod_congr b t₁ t₂ _ _ _ h]) fun h => by rw [fromContainer_congr b t₁ t₂ _ _ h]

theorem linkOf_congr (b : Bool) (t₁ t₂ : Tab) (q : QUnit) (h : AgreeOn (readsOf q) t₁ t₂) :
    linkOf b q t₁ = linkOf b q t₂ := by
  unfold linkOf
  simp only
  split
  · rfl
  · rename_i hc
    simp only [Bool.or_eq_true, not_or] at hc
    obtain ⟨⟨⟨⟨⟨c1, c2⟩, c3⟩, c4⟩, c5⟩, c6⟩ := hc
    unfold readsOf at h
    simp only [c1, c2, c3, c4, c5, c6, Bool.false_eq_true, if_false] at h
    rw [fromContainer_congr b t₁ t₂ _ _ h]

end Cv
