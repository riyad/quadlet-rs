import QM.ConvBuilt
import QM.ConvNoUK
/-! A handler that threads the service through while it computes something else is described by one relation between its run and
    the run of its *argument projection* (the same computation without the service): `Along`.  From it follow the three facts the
    development uses of such a handler: what it returns (`Along.args`, `Along.fst`), that it only writes (`Along.built`), and that it
    raises no unknown-key error (`Along.noUK`). -/
namespace Cv
open MM

/-- how a handler's run `x`, started with the service `svc`, ends relative to the run `y` of its argument projection: both fail
    with the same error, which is not `unknownKey`, or `x` returns what `y` returns beside a service built from `svc` -/
inductive Along {α : Type} (svc : SUnit) : R (α × SUnit) → R α → Prop
  | error (e : Err) : isUK e = false → Along svc (.error e) (.error e)
  | ok (a : α) {svc' : SUnit} : Built addPairs svc svc' → Along svc (.ok (a, svc')) (.ok a)

namespace Along
variable {α : Type} {svc : SUnit} {x : R (α × SUnit)} {y : R α}

theorem args (h : Along svc x y) {r : α × SUnit} (hx : x = .ok r) : y = .ok r.1 := by cases h <;> cases hx; rfl
theorem built (h : Along svc x y) {r : α × SUnit} (hx : x = .ok r) : Built addPairs svc r.2 := by cases h <;> cases hx; assumption
theorem noUK (h : Along svc x y) : NoUK x := by
  cases h with
  | error e he => exact .err e he
  | ok a _ => exact .ok _

theorem same (a : α) : Along svc (.ok (a, svc)) (.ok a) := .ok a (.refl svc)

theorem ite {c : Prop} [Decidable c] {x' : R (α × SUnit)} {y' : R α} (h₁ : c → Along svc x y) (h₂ : ¬c → Along svc x' y') :
    Along svc (if c then x else x') (if c then y else y') := by
  split
  · exact h₁ ‹_›
  · exact h₂ ‹_›

theorem after {svc₀ : SUnit} (hb : Built addPairs svc₀ svc) (h : Along svc x y) : Along svc₀ x y := by
  cases h with
  | error e he => exact .error e he
  | ok a hb' => exact .ok a (hb'.after hb)

theorem bind {β : Type} (h : Along svc x y) {k : α × SUnit → R (β × SUnit)} {k' : α → R β}
    (hk : ∀ a sv, Along sv (k (a, sv)) (k' a)) : Along svc (x >>= k) (y >>= k') := by
  cases h with
  | error e he => exact .error e he
  | ok a hb => exact (hk a _).after hb

theorem throw_bind {β γ : Type} (e : Err) (he : isUK e = false) (k : γ → R (β × SUnit)) :
    Along svc ((MonadExcept.throw e : R γ) >>= k) (.error e) := .error e he

theorem foldlM {β : Type} {f : α × SUnit → β → R (α × SUnit)} {g : α → β → R α}
    (h : ∀ a sv b, Along sv (f (a, sv) b) (g a b)) : ∀ (l : List β) (a : α) (sv : SUnit), Along sv (l.foldlM f (a, sv)) (l.foldlM g a)
  | [], a, _ => same a
  | b :: l, a, sv => by
    simp only [List.foldlM_cons]
    exact (h a sv b).bind (foldlM h l)

end Along

/-- here and not with the other handlers in QM/ConvArgs.lean: the shape of the .kube command (QM/ConvCmd.lean) needs it -/
theorem handleSetWorkingDirectory_along (p : Str) (u svc : SUnit) (sec : Str) :
    Along svc (handleSetWorkingDirectory p u svc sec) ((swdPlan p u sec).map (·.1)) := by
  unfold handleSetWorkingDirectory
  cases h : swdPlan p u sec with
  | error e => exact .error e (swdPlan_noUK p u sec e h)
  | ok r =>
    obtain ⟨c, wd⟩ := r
    cases wd with
    | none => exact .same c
    | some d => exact .ok c (.addS _ _ _ (.refl _))

end Cv
