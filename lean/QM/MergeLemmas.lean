import QM.Render
import QM.MMapLemmas
import QM.ParseNL
/-! A unit spelled in two pieces — a main file and a drop-in, or any cut of a file at a section boundary — and the unit
    spelled in one piece: the parser's accumulator (`addEntries`, `eraseSects`) against the merge of two parsed units
    (`MM.mergeFrom`).  Section by section the two hold the same entries (`entriesOf_eraseSects_merge`); as *lists* (section order and
    all) they are equal provided every section carries at least one entry (`eraseSects_eq_merge`: `merge_from` does not create
    a section for a header without entries). -/
namespace Parse
open MM

theorem addEntries_map_eq (sec : Str) (es : List (Str × Str)) :
    (fun p : Str × List (Str × Str) => if p.1 == sec then (p.1, p.2 ++ es) else p)
      = fun p => (p.1, (fun k x => if k = sec then x ++ es else x) p.1 p.2) := by
  funext p; by_cases h : p.1 = sec <;> simp [h]

theorem entriesOf_addEntries (u : Unit) (sec : Str) (es : List (Str × Str)) (s : Str) :
    entriesOf (addEntries u sec es) s = if s = sec then entriesOf u sec ++ es else entriesOf u s := by
  unfold addEntries entriesOf
  cases h : u.lookup sec with
  | some x =>
    dsimp only
    rw [addEntries_map_eq, lookup_map_val (fun k x => if k = sec then x ++ es else x)]
    by_cases hs : s = sec
    · subst hs; simp [h]
    · simp only [hs, if_false]; cases u.lookup s <;> rfl
  | none =>
    simp only [List.lookup_append, lookup_cons_if]
    by_cases hs : s = sec
    · subst hs; simp [h]
    · simp [hs]

theorem names_addEntries (u : Unit) (sec : Str) (es : List (Str × Str)) :
    names (addEntries u sec es) = ins (names u) sec := by
  unfold addEntries ins
  cases h : u.lookup sec with
  | some x =>
    rw [if_pos ((lookup_isSome_iff_mem u sec).mp (by simp [h]))]
    simp only [addEntries_map_eq, names, List.map_map]; rfl
  | none =>
    rw [if_neg (fun hm => by simpa [h] using (lookup_isSome_iff_mem u sec).mpr hm)]
    simp [names]

theorem entriesOf_eraseSects (r : List RSect) (u : Unit) (s : Str) :
    entriesOf (eraseSects u r) s = entriesOf u s ++ r.flatMap fun rs => if s = rs.name then eraseItems rs.items else [] :=
  foldl_appends (entriesOf · s) _ _ r (fun u rs _ => by rw [entriesOf_addEntries]; split <;> simp [*]) u

theorem names_eraseSects (r : List RSect) (u : Unit) : names (eraseSects u r) = (r.map (·.name)).foldl ins (names u) := by
  rw [List.foldl_map]
  exact (List.foldl_hom names fun u s => (names_addEntries u s.name (eraseItems s.items)).symm).symm

theorem nodup_eraseSects (r : List RSect) (u : Unit) (h : (u.map Prod.fst).Nodup) :
    ((eraseSects u r).map Prod.fst).Nodup := by
  rw [← names, names_eraseSects]; exact nodup_foldl_ins _ h

theorem eraseSects_append (r₁ r₂ : List RSect) (u : Unit) :
    eraseSects u (r₁ ++ r₂) = eraseSects (eraseSects u r₁) r₂ :=
  List.foldl_append

theorem renderSects_append (r₁ r₂ : List RSect) : renderSects (r₁ ++ r₂) = renderSects r₁ ++ renderSects r₂ :=
  List.flatMap_append

theorem addEntries_eq_modify (u : Unit) (n : Str) (es : List (Str × Str)) (h : (names u).Nodup) :
    addEntries u n es = modifySection u n (· ++ es) :=
  ext_of_nodup _ _ (by rw [names_addEntries, names_modifySection]) (by rw [names_addEntries]; exact nodup_ins n h)
    fun s => by rw [entriesOf_addEntries, entriesOf_modify]

theorem NE_eraseSects (r : List RSect) (h : ∀ s ∈ r, eraseItems s.items ≠ []) (u : Unit) (hu : NE u) : NE (eraseSects u r) :=
  List.foldlRecOn r _ (motive := NE) hu fun u hu s hs =>
    forall_mem_addEntries _ u _ _ hu (fun p _ => by simpa using fun _ => h s hs) (h s hs)

theorem entriesOf_eraseSects_merge (r : List RSect) (u : Unit) (s : Str) :
    entriesOf (eraseSects u r) s = entriesOf (mergeFrom u (eraseSects [] r)) s := by
  rw [entriesOf_eraseSects, entriesOf_mergeFrom _ _ (nodup_eraseSects r [] List.nodup_nil), entriesOf_eraseSects r []]; rfl

theorem eraseSects_eq_merge (r : List RSect) (h : ∀ s ∈ r, eraseItems s.items ≠ []) (u : Unit) (hu : (names u).Nodup) :
    eraseSects u r = mergeFrom u (eraseSects [] r) := by
  apply ext_of_nodup
  · rw [names_eraseSects, names_mergeFrom _ _ (NE_eraseSects r h [] (fun _ hp => nomatch hp)), names_eraseSects,
      foldl_ins_foldl]; rfl
  · exact nodup_eraseSects r u hu
  · exact entriesOf_eraseSects_merge r u

end Parse
