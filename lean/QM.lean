import QM.Attr
import QM.Conform
import QM.ConformModel
import QM.Conv
import QM.ConvAccept
import QM.ConvAlong
import QM.ConvArgs
import QM.ConvBuilt
import QM.ConvCmd
import QM.ConvDelta
import QM.ConvDrv
import QM.ConvFrames
import QM.ConvKept
import QM.ConvNoUK
import QM.ConvPod
import QM.ConvShape
import QM.ConvTrace
import QM.Driver
import QM.EmitLemmas
import QM.Equiv
import QM.Esc
import QM.EscLemmas
import QM.Extract
import QM.Fs
import QM.Generated.Tables
import QM.InsertionSort
import QM.InstallBridge
import QM.InstallModel
import QM.Lookup
import QM.LookupLemmas
import QM.MMap
import QM.MMapLemmas
import QM.MergeLemmas
import QM.NameLemmas
import QM.ParseNL
import QM.ParseRT
import QM.Parser
import QM.Path
import QM.PathLemmas
import QM.Port
import QM.Proc
import QM.ProcLemmas
import QM.ProcLocal
import QM.Props.C01
import QM.Props.C02
import QM.Props.C02Delta
import QM.Props.C03
import QM.Props.C04
import QM.Props.C05
import QM.Props.C05Cmd
import QM.Props.C06
import QM.Props.C06Conv
import QM.Props.C07
import QM.Props.C08
import QM.Props.C08Names
import QM.Props.C10Exit
import QM.Props.C11
import QM.Props.C12
import QM.Props.C12Run
import QM.Props.C14
import QM.Props.C15
import QM.Props.C15Cmd
import QM.Props.C16
import QM.Props.C17
import QM.Props.C17Sites
import QM.Props.C18
import QM.Props.C18Run
import QM.Props.C19
import QM.Props.C19Run
import QM.Props.C20
import QM.Quote
import QM.QuoteLemmas
import QM.Refine
import QM.RefineLemmas
import QM.Render
import QM.Run
import QM.RunLemmas
import QM.Search
import QM.Spec.Keys
import QM.SpellLemmas
import QM.Strv
import QM.Unquote
import QM.Writer
/-! Root of the default target: every module but `QM.FsDropins` and `QM.Props.C13`, which declare a `Cv.loadedUnits` of their own (on lists of
    load results) beside the one of `QM.Run` (on trees) and so cannot be imported next to it; `lake build QM.Props.C13` builds those two. -/
